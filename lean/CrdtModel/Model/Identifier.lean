import CrdtModel.Base.LinOrd
/-! Model of `src/identifier.rs` (dense identifiers).  Core Lean only (`Rat` is core; Rust uses `BigRational`).

`Identifier τ` is a *structure* around the path (not an `abbrev` of `List _`) so that its order instance
(`Ord for Identifier`: a proper prefix is GREATER than its extensions) does not clash with the generic
lexicographic `LinOrd (List α)` instance (prefix first).

No `LinOrd Rat` instance is declared on purpose: `LinOrd` installs a generic `LT α` instance and a second,
syntactically different `<` on `Rat` would hide the rational arithmetic from `grind`.  Nodes `(BigRational, T)`
are compared by `nodeCmp` with the native `<` of `Rat` and the `LinOrd` order of the markers. -/
namespace Crdt
open LinOrd

/-- src/identifier.rs:28-30 `pub struct Identifier<T>(Vec<(BigRational, T)>)` -/
structure Identifier (τ : Type) where
  path : List (Rat × τ)
deriving Repr

namespace Identifier
variable {τ : Type} [LinOrd τ]

instance : DecidableEq (Identifier τ) := fun a b =>
  if h : a.path = b.path then isTrue (by cases a; cases b; simp at h; subst h; rfl)
  else isFalse (fun e => h (by subst e; rfl))

/-- src/identifier.rs:17-24 -/
def rationalBetween : Option Rat → Option Rat → Rat
  | none, none => 0
  | some low, none => low + 1
  | none, some high => high - 1
  | some low, some high => (low + high) / 2

/-- `Ord for (BigRational, T)` (tuples compare lexicographically), used at src/identifier.rs:44 -/
def nodeCmp (a b : Rat × τ) : Ordering :=
  if a.1 < b.1 then .lt else if b.1 < a.1 then .gt
  else if a.2 < b.2 then .lt else if b.2 < a.2 then .gt else .eq

/-- src/identifier.rs:38-53 the loop of `Ord::cmp`: node-wise; an exhausted path is GREATER than a longer one -/
def cmpPath : List (Rat × τ) → List (Rat × τ) → Ordering
  | [], [] => .eq
  | [], _ :: _ => .gt
  | _ :: _, [] => .lt
  | a :: as, b :: bs =>
    match nodeCmp a b with
    | .eq => cmpPath as bs
    | o => o

/-- src/identifier.rs:38-53 `Ord::cmp` -/
def cmp (a b : Identifier τ) : Ordering := cmpPath a.path b.path

/-- src/identifier.rs:64-66 `value` (`None` = the Rust `unwrap` panics: empty identifier) -/
def value (i : Identifier τ) : Option τ := i.path.getLast?.map (·.2)

/-- src/identifier.rs:69-71 `into_value` (same panic) -/
def intoValue (i : Identifier τ) : Option τ := i.value

/-- src/identifier.rs:90-118 the loop of `between`; the first list is `low_path` (it becomes `[]` when the
code replaces it by `std::iter::empty()`), the second `high_path`. Returns the pushed `path`. -/
def betweenLoop (m : τ) : List (Rat × τ) → List (Rat × τ) → List (Rat × τ)
  | (lr, lm) :: ls, (hr, hm) :: hs =>
    if lr = hr then
      if lm < m ∧ m < hm then [(hr, m)]                         -- marker fits, break
      else if lm = hm then (hr, hm) :: betweenLoop m ls hs       -- common prefix
      else (hr, hm) :: betweenLoop m [] hs                       -- diverged: clear the low path
    else [(rationalBetween (some lr) (some hr), m)]
  | [], (hr, _) :: _ => [(rationalBetween none (some hr), m)]
  | (lr, _) :: _, [] => [(rationalBetween (some lr) none, m)]
  | [], [] => [(rationalBetween none none, m)]

/-- first rational of the path (`entry.0.first().map(|(r, _)| r)`, `None` for the empty identifier) -/
def firstRat (i : Identifier τ) : Option Rat := i.path.head?.map (·.1)

/-- src/identifier.rs:74-131 `between`.  In the `Greater` case the Rust calls itself with the arguments
swapped; by antisymmetry of `cmp` (`Identifier.cmpPath_swap`) that call takes the `Less` branch, which is
what is written here (the Rust equation itself: `C14.between_comm`). -/
def between (low high : Option (Identifier τ)) (marker : τ) : Identifier τ :=
  match low, high with
  | some lo, some hi =>
    match cmp lo hi with
    | .gt => ⟨betweenLoop marker hi.path lo.path⟩
    | .eq => hi
    | .lt => ⟨betweenLoop marker lo.path hi.path⟩
  | lo, hi => ⟨[(rationalBetween (lo.bind firstRat) (hi.bind firstRat), marker)]⟩

/-! ## `cmp` is a lawful total order (needed here: identifiers are `BTreeSet`/`BTreeMap` keys, i.e. `FMap` keys) -/

def nodeLt (a b : Rat × τ) : Prop := a.1 < b.1 ∨ (a.1 = b.1 ∧ a.2 < b.2)

/-- the native order of `Rat` as a `LinOrd`; a `def` and not an instance, for the reason given at the head of this
file.  With it `nodeLt` is the order of the `LinOrd (α × β)` instance, whose laws are reused. -/
@[reducible] def ratOrd : LinOrd Rat where
  lt := (· < ·)
  decLt := inferInstance
  decEq := inferInstance
  irrefl := fun _ => Rat.lt_irrefl
  trans := Std.lt_trans
  tri := Std.lt_trichotomy

theorem nodeLt_trans {a b c : Rat × τ} (h1 : nodeLt a b) (h2 : nodeLt b c) : nodeLt a c :=
  letI := ratOrd; LinOrd.trans (α := Rat × τ) h1 h2

theorem nodeLt_tri (a b : Rat × τ) : nodeLt a b ∨ a = b ∨ nodeLt b a :=
  letI := ratOrd; LinOrd.tri a b

theorem nodeCmp_of_lt {a b : Rat × τ} (h : nodeLt a b) : nodeCmp a b = .lt := by
  rcases h with h | ⟨e, h⟩
  · simp [nodeCmp, h]
  · simp [nodeCmp, e, Rat.lt_irrefl, h]

theorem nodeCmp_self (a : Rat × τ) : nodeCmp a a = .eq := by
  simp [nodeCmp, Rat.lt_irrefl, lt_irrefl]

theorem nodeCmp_of_gt {a b : Rat × τ} (h : nodeLt b a) : nodeCmp a b = .gt := by
  rcases h with h | ⟨e, h⟩
  · simp [nodeCmp, h, Rat.not_lt.mpr (Rat.le_of_lt h)]
  · simp [nodeCmp, e, Rat.lt_irrefl, h, lt_asymm h]

theorem cmpPath_cons_of_lt {a b : Rat × τ} {as bs : List (Rat × τ)} (h : nodeLt a b) :
    cmpPath (a :: as) (b :: bs) = .lt := by rw [cmpPath, nodeCmp_of_lt h]

theorem cmpPath_cons_self {a : Rat × τ} {as bs : List (Rat × τ)} :
    cmpPath (a :: as) (a :: bs) = cmpPath as bs := by rw [cmpPath, nodeCmp_self]

theorem cmpPath_cons_of_gt {a b : Rat × τ} {as bs : List (Rat × τ)} (h : nodeLt b a) :
    cmpPath (a :: as) (b :: bs) = .gt := by rw [cmpPath, nodeCmp_of_gt h]

theorem cmpPath_cons {a b : Rat × τ} {as bs : List (Rat × τ)} {o : Ordering} :
    cmpPath (a :: as) (b :: bs) = o ↔
      (nodeLt a b ∧ o = .lt) ∨ (a = b ∧ cmpPath as bs = o) ∨ (nodeLt b a ∧ o = .gt) := by
  constructor
  · rintro rfl
    rcases nodeLt_tri a b with h | rfl | h
    · exact Or.inl ⟨h, cmpPath_cons_of_lt h⟩
    · exact Or.inr (Or.inl ⟨rfl, cmpPath_cons_self.symm⟩)
    · exact Or.inr (Or.inr ⟨h, cmpPath_cons_of_gt h⟩)
  · rintro (⟨h, rfl⟩ | ⟨rfl, rfl⟩ | ⟨h, rfl⟩)
    · exact cmpPath_cons_of_lt h
    · exact cmpPath_cons_self
    · exact cmpPath_cons_of_gt h

theorem cmpPath_cons_lt {a b : Rat × τ} {as bs : List (Rat × τ)} :
    cmpPath (a :: as) (b :: bs) = .lt ↔ (nodeLt a b ∨ (a = b ∧ cmpPath as bs = .lt)) := by
  simp [cmpPath_cons]

theorem cmpPath_append_left (c p q : List (Rat × τ)) : cmpPath (c ++ p) (c ++ q) = cmpPath p q := by
  induction c with
  | nil => rfl
  | cons a c ih => rw [List.cons_append, List.cons_append, cmpPath_cons_self, ih]

theorem cmpPath_append_lt (c : List (Rat × τ)) (x : Rat × τ) (s : List (Rat × τ)) :
    cmpPath (c ++ x :: s) c = .lt := by
  have := cmpPath_append_left c (x :: s) []
  rwa [List.append_nil] at this

/-- the empty identifier is the greatest element: nothing is above it -/
theorem cmpPath_nil_ne_lt (q : List (Rat × τ)) : cmpPath [] q ≠ .lt := by
  cases q <;> simp [cmpPath]

/-- declarative reading of the order: `p < q` iff at the first position where they differ `p` still has a node and
either `q` has ended there (a proper prefix is greater) or `q`'s node is greater -/
theorem cmpPath_lt_iff (p q : List (Rat × τ)) : cmpPath p q = .lt ↔
    ∃ c x s, p = c ++ x :: s ∧ (q = c ∨ ∃ y t, q = c ++ y :: t ∧ nodeLt x y) := by
  constructor
  · intro h
    induction p generalizing q with
    | nil => exact absurd h (cmpPath_nil_ne_lt q)
    | cons a as ih =>
      cases q with
      | nil => exact ⟨[], a, as, rfl, Or.inl rfl⟩
      | cons b bs =>
        rcases cmpPath_cons_lt.mp h with hab | ⟨rfl, hr⟩
        · exact ⟨[], a, as, rfl, Or.inr ⟨b, bs, rfl, hab⟩⟩
        · obtain ⟨c, x, s, rfl, rfl | ⟨y, t, rfl, hxy⟩⟩ := ih bs hr
          · exact ⟨a :: bs, x, s, rfl, Or.inl rfl⟩
          · exact ⟨a :: c, x, s, rfl, Or.inr ⟨y, t, rfl, hxy⟩⟩
  · rintro ⟨c, x, s, rfl, rfl | ⟨y, t, rfl, hxy⟩⟩
    · exact cmpPath_append_lt q x s
    · rw [cmpPath_append_left]; exact cmpPath_cons_of_lt hxy

theorem cmpPath_eq_iff {p q : List (Rat × τ)} : cmpPath p q = .eq ↔ p = q := by
  induction p generalizing q with
  | nil => cases q <;> simp [cmpPath]
  | cons a as ih =>
    cases q with
    | nil => simp [cmpPath]
    | cons b bs => simp [cmpPath_cons, ih]

theorem cmpPath_refl (p : List (Rat × τ)) : cmpPath p p = .eq := cmpPath_eq_iff.mpr rfl

theorem cmpPath_swap (p q : List (Rat × τ)) : cmpPath q p = (cmpPath p q).swap := by
  induction p generalizing q with
  | nil => cases q <;> rfl
  | cons a as ih =>
    cases q with
    | nil => rfl
    | cons b bs =>
      rcases nodeLt_tri a b with h | rfl | h
      · rw [cmpPath_cons_of_lt h, cmpPath_cons_of_gt h]; rfl
      · rw [cmpPath_cons_self, cmpPath_cons_self, ih]
      · rw [cmpPath_cons_of_gt h, cmpPath_cons_of_lt h]; rfl

theorem cmpPath_gt_iff {p q : List (Rat × τ)} : cmpPath p q = .gt ↔ cmpPath q p = .lt := by
  rw [cmpPath_swap q p, Ordering.swap_eq_gt]

theorem cmpPath_lt_trans {p q r : List (Rat × τ)} (h1 : cmpPath p q = .lt) (h2 : cmpPath q r = .lt) :
    cmpPath p r = .lt := by
  induction p generalizing q r with
  | nil => exact absurd h1 (cmpPath_nil_ne_lt q)
  | cons a as ih =>
    cases q with
    | nil => exact absurd h2 (cmpPath_nil_ne_lt r)
    | cons b bs =>
      cases r with
      | nil => rfl
      | cons c cs =>
        rw [cmpPath_cons_lt] at *
        rcases h1 with h1 | ⟨rfl, h1⟩ <;> rcases h2 with h2 | ⟨rfl, h2⟩
        · exact Or.inl (nodeLt_trans h1 h2)
        · exact Or.inl h1
        · exact Or.inl h2
        · exact Or.inr ⟨rfl, ih h1 h2⟩

omit [LinOrd τ] in
theorem ext {a b : Identifier τ} (h : a.path = b.path) : a = b := congrArg mk h

/-- `Ord for Identifier` as a lawful strict total order -/
instance : LinOrd (Identifier τ) where
  lt := fun a b => cmp a b = .lt
  decLt := fun _ _ => inferInstanceAs (Decidable (_ = _))
  decEq := inferInstance
  irrefl := fun a h => by simp [cmp, cmpPath_refl] at h
  trans := fun h1 h2 => cmpPath_lt_trans h1 h2
  tri := fun a b => by
    cases h : cmp a b
    · exact Or.inl rfl
    · exact Or.inr (Or.inl (ext (cmpPath_eq_iff.mp h)))
    · exact Or.inr (Or.inr (cmpPath_gt_iff.mp h))

theorem lt_iff {a b : Identifier τ} : a < b ↔ cmp a b = .lt := Iff.rfl

end Identifier
end Crdt
