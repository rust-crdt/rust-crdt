import CrdtModel.Base.FMap
/-!
Model of `src/merkle_reg.rs`.  Core Lean only (the driver links against this).

Hashes are an abstract ordered type `H`; sha3 is *not* modelled: every function that hashes takes the hash
function `hash : Node H τ → H` as a parameter.  `BTreeSet<Hash>` = `FSet H`, `BTreeMap<Hash, Node<T>>` = `FMap H (Node H τ)`.

`apply` (src/merkle_reg.rs:209-254) is recursive: after a node has entered the dag, every orphan whose children
are now all in the dag is taken out of `orphans` and `apply`d in turn.  The model runs that recursion on an
explicit call stack (`applyAll`, a work list: "nodes still to be applied, innermost loop first"), which Lean
accepts with a *proved* termination measure, and `MerkleReg.apply_unfold` shows that the function so defined
satisfies exactly the recursive equation of the Rust code.
-/
namespace Crdt

/-! ### small additions to `FMap` needed by the model (sizes for the termination proof, `BTreeMap::remove` loop) -/
namespace AL
variable {κ : Type} [LinOrd κ] {ν : Type}

theorem length_insert_le (k : κ) (v : ν) (l : List (κ × ν)) : (insert k v l).length ≤ l.length + 1 := by
  induction l with
  | nil => exact Nat.le_refl _
  | cons hd t ih =>
    simp only [insert]
    by_cases lt : k < hd.1
    · rewrite [if_pos lt]; exact Nat.le_refl _
    · rewrite [if_neg lt]
      by_cases e : k = hd.1
      · rewrite [if_pos e]; exact Nat.le_succ _
      · rewrite [if_neg e]; exact Nat.succ_le_succ ih

theorem length_erase_of_get? {k : κ} {v : ν} {l : List (κ × ν)} (h : get? l k = some v) :
    (erase k l).length + 1 = l.length := by
  induction l with
  | nil => cases h
  | cons hd t ih =>
    simp only [get?] at h
    simp only [erase]
    split
    · rfl
    · next ne => exact congrArg (· + 1) (ih (by rwa [if_neg ne] at h))

end AL

namespace FMap
variable {κ : Type} [LinOrd κ] {ν : Type}

theorem size_insert_le (m : FMap κ ν) (k : κ) (v : ν) : (m.insert k v).size ≤ m.size + 1 :=
  AL.length_insert_le k v m.l

theorem size_erase_of_get? {m : FMap κ ν} {k : κ} {v : ν} (h : m.get? k = some v) : (m.erase k).size + 1 = m.size :=
  AL.length_erase_of_get? h

/-- `for k in ks { if let Some(v) = m.remove(&k) { out.push(v) } }` (src/merkle_reg.rs:238-246) -/
def removeAll : List κ → FMap κ ν → FMap κ ν × List ν
  | [], m => (m, [])
  | k :: ks, m =>
    match m.get? k with
    | some v => let r := removeAll ks (m.erase k); (r.1, v :: r.2)
    | none => removeAll ks m

theorem removeAll_size (ks : List κ) (m : FMap κ ν) : (removeAll ks m).1.size + (removeAll ks m).2.length = m.size := by
  induction ks generalizing m with
  | nil => simp [removeAll]
  | cons k ks ih =>
    simp only [removeAll]
    split
    · next v hv =>
      rw [List.length_cons, ← Nat.add_assoc, ih (m.erase k), size_erase_of_get? hv]
    · exact ih m

end FMap

/-- src/merkle_reg.rs:15-21 `Node<T>` (the op type) -/
structure Node (H : Type) [LinOrd H] (τ : Type) where
  children : FSet H
  value : τ

instance {H : Type} [LinOrd H] {τ : Type} [DecidableEq τ] : DecidableEq (Node H τ) := fun a b =>
  if h : a.children = b.children ∧ a.value = b.value then
    isTrue (by cases a; cases b; simp at h; obtain ⟨h1, h2⟩ := h; subst h1; subst h2; rfl)
  else isFalse (fun e => h (by subst e; exact ⟨rfl, rfl⟩))

/-- src/merkle_reg.rs:78-85 -/
structure MerkleReg (H : Type) [LinOrd H] (τ : Type) where
  roots : FSet H
  dag : FMap H (Node H τ)
  orphans : FMap H (Node H τ)

/-- src/merkle_reg.rs:181-186 -/
inductive MerkleValidationError (H : Type) where
  | missingChild : H → MerkleValidationError H
deriving DecidableEq

namespace MerkleReg
variable {H : Type} [LinOrd H] {τ : Type}

instance [DecidableEq τ] : DecidableEq (MerkleReg H τ) := fun a b =>
  if h : a.roots = b.roots ∧ a.dag = b.dag ∧ a.orphans = b.orphans then
    isTrue (by cases a; cases b; simp at h; obtain ⟨h1, h2, h3⟩ := h; subst h1; subst h2; subst h3; rfl)
  else isFalse (fun e => h (by subst e; exact ⟨rfl, rfl, rfl⟩))

/-- src/merkle_reg.rs:87-101 `Default` / `new` -/
def init : MerkleReg H τ := ⟨∅, ∅, ∅⟩
instance : EmptyCollection (MerkleReg H τ) := ⟨init⟩
instance : Inhabited (MerkleReg H τ) := ⟨init⟩

/-- src/merkle_reg.rs:104-113: the roots that are in the dag, as `Content.nodes : BTreeMap<Hash, &Node>` -/
def read (s : MerkleReg H τ) : FMap H (Node H τ) := s.roots.filterMap (fun h _ => s.dag.get? h)

/-- src/merkle_reg.rs:65-67 `Content::hashes` -/
def hashes (c : FMap H (Node H τ)) : FSet H := c.filterMap (fun _ _ => some ())

/-- src/merkle_reg.rs:116-118 -/
def write (_s : MerkleReg H τ) (value : τ) (children : FSet H) : Node H τ := ⟨children, value⟩

/-- src/merkle_reg.rs:124-126 -/
def node (s : MerkleReg H τ) (h : H) : Option (Node H τ) := (s.dag.get? h).orElse (fun _ => s.orphans.get? h)

/-- src/merkle_reg.rs:129-131 -/
def allNodes (s : MerkleReg H τ) : List (Node H τ) := s.dag.l.map (·.2)

/-- src/merkle_reg.rs:134-146 -/
def children (s : MerkleReg H τ) (h : H) : FMap H (Node H τ) :=
  match s.dag.get? h with
  | some nd => nd.children.filterMap (fun c _ => s.dag.get? c)
  | none => ∅

/-- src/merkle_reg.rs:149-163 -/
def parents (s : MerkleReg H τ) (h : H) : FMap H (Node H τ) :=
  s.dag.filterMap (fun _ nd => if nd.children.contains h then some nd else none)

/-- src/merkle_reg.rs:166-168 -/
def numNodes (s : MerkleReg H τ) : Nat := s.dag.size
/-- src/merkle_reg.rs:171-173 -/
def numOrphans (s : MerkleReg H τ) : Nat := s.orphans.size

/-- src/merkle_reg.rs:175-177 -/
def allHashesSeen (s : MerkleReg H τ) (hs : FSet H) : Bool := hs.l.all (fun p => s.dag.contains p.1)

/-- src/merkle_reg.rs:200-207: error for the first child (in set order) that is not in the dag -/
def validateOp (s : MerkleReg H τ) (op : Node H τ) : Except (MerkleValidationError H) Unit :=
  match op.children.l.find? (fun p => !s.dag.contains p.1) with
  | some p => .error (.missingChild p.1)
  | none => .ok ()

/-- src/merkle_reg.rs:260-262 -/
def validateMerge (_s _o : MerkleReg H τ) : Except Empty Unit := .ok ()

/-- src/merkle_reg.rs:215-246, the branch "all children seen", up to (not including) the recursive calls:
children leave `roots`, the node's hash enters `roots` and `dag`; the orphans whose children are now all in the
dag are collected (in key order), removed from `orphans`, and returned as `nodes_to_apply`. -/
def insertVisible (s : MerkleReg H τ) (h : H) (nd : Node H τ) : MerkleReg H τ × List (Node H τ) :=
  let roots := nd.children.l.foldl (fun r c => r.erase c.1) s.roots
  let roots := roots.insert h ()
  let s1 : MerkleReg H τ := ⟨roots, s.dag.insert h nd, s.orphans⟩
  let ready : List H := (s1.orphans.l.filter (fun p => s1.allHashesSeen p.2.children)).map (·.1)
  let r := FMap.removeAll ready s1.orphans
  (⟨s1.roots, s1.dag, r.1⟩, r.2)

theorem insertVisible_size (s : MerkleReg H τ) (h : H) (nd : Node H τ) :
    (s.insertVisible h nd).1.orphans.size + (s.insertVisible h nd).2.length = s.orphans.size := by
  simp only [insertVisible]
  exact FMap.removeAll_size _ _

variable (hash : Node H τ → H)

/-- src/merkle_reg.rs:209-254 run on an explicit stack: `applyAll s [n₁, …, nₖ]` = `for n in [n₁…nₖ] { s.apply(n) }`.
The head of the list is the call being executed; the `nodes_to_apply` of a call are pushed in front of the
callers' remaining work, which is the order in which the recursive Rust code executes them.
Termination: `(orphans.len() + pending, pending)` decreases lexicographically. -/
def applyAll (s : MerkleReg H τ) (pending : List (Node H τ)) : MerkleReg H τ :=
  match pending with
  | [] => s
  | nd :: rest =>
    let h := hash nd
    if s.dag.contains h || s.orphans.contains h then
      applyAll s rest
    else if s.allHashesSeen nd.children then
      let r := s.insertVisible h nd
      applyAll r.1 (r.2 ++ rest)
    else
      applyAll ⟨s.roots, s.dag, s.orphans.insert h nd⟩ rest
termination_by (s.orphans.size + pending.length, pending.length)
decreasing_by
  · apply Prod.Lex.left; simp only [List.length_cons]; omega
  · apply Prod.Lex.left
    have := s.insertVisible_size (hash nd) nd
    simp only [List.length_append, List.length_cons]; omega
  · have := s.orphans.size_insert_le (hash nd) nd
    simp only [List.length_cons]
    rcases Nat.lt_or_ge ((s.orphans.insert (hash nd) nd).size + rest.length) (s.orphans.size + (rest.length + 1)) with lt | ge
    · exact Prod.Lex.left _ _ lt
    · have e : (s.orphans.insert (hash nd) nd).size + rest.length = s.orphans.size + (rest.length + 1) := by omega
      rw [e]; exact Prod.Lex.right _ (by omega)

/-- src/merkle_reg.rs:209-254 `CmRDT::apply` -/
def apply (s : MerkleReg H τ) (nd : Node H τ) : MerkleReg H τ := applyAll hash s [nd]

/-- src/merkle_reg.rs:264-272 `CvRDT::merge`: apply every dag node, then every orphan, of the other (key order) -/
def merge (s other : MerkleReg H τ) : MerkleReg H τ :=
  let s1 := other.dag.l.foldl (fun acc p => apply hash acc p.2) s
  other.orphans.l.foldl (fun acc p => apply hash acc p.2) s1

end MerkleReg
end Crdt
