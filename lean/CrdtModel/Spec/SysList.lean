import CrdtModel.Spec.ListSys
import CrdtModel.Spec.SysOrswot
/-!
# A system-level execution model for `List`: ops are only ever GENERATED THROUGH THE API

All `List` theorems (C12) have the shape `LogWF U → listSys.Reach U s K → …` where `U` is "the op log of the history" and
`LogWF U` is a hypothesis.  This file defines a linear-time model of a whole system in which no such log is given in
advance: a configuration holds one replica per actor ("each actor confined to one replica"), and the only way an op comes
into existence is a step that mirrors the use of the API

    `let op = l.insert_index(ix, v, i); l.apply(op)`   /   `l.append(v, i)`   /   `l.delete_index(ix, i)`

evaluated at the CURRENT state of the issuing replica and applied there at once.  Everything else (`deliver`) moves existing
ops around, under the discipline `ListSpec.Ok` of `listSys` (per-actor order + a delete after the insert it targets).
`List` has no state merge, so there are no merge steps.

`StepC` / `RunC` is the sub-system with genuinely CAUSAL delivery: every generated op is recorded together with everything
its author knew (`deps`), and it may be delivered to a replica only when that replica knows all of `deps`.

`Proofs/SysList.lean`: every reachable configuration has a well-formed log and `Reach`-derivable replica states;
`Props/SysList.lean`: the C12 theorems with no well-formedness hypothesis left.
-/
namespace Crdt.SysList
open Crdt.Sys  -- `upd` (update of one replica's component), `upd_same`, `upd_other`: `Spec/SysOrswot.lean`

variable {τ A : Type} [LinOrd A]

structure Cfg (τ A : Type) [LinOrd A] where
  /-- current state of actor `i`'s replica -/
  rep : A → ListCrdt τ A
  /-- ops delivered to / generated at it (newest first; duplicates are kept) -/
  know : A → List (ListOp τ A)
  /-- every op generated so far (newest first) -/
  log : List (ListOp τ A)

namespace Cfg

def init : Cfg τ A := ⟨fun _ => ListCrdt.new, fun _ => [], []⟩

/-- `op` has just been built at replica `i`: it is applied there at once, remembered, and enters the log -/
def gen (c : Cfg τ A) (i : A) (op : ListOp τ A) : Cfg τ A :=
  { c with rep := upd c.rep i ((c.rep i).apply op), know := upd c.know i (op :: c.know i), log := op :: c.log }

def deliver (c : Cfg τ A) (i : A) (op : ListOp τ A) : Cfg τ A :=
  { c with rep := upd c.rep i ((c.rep i).apply op), know := upd c.know i (op :: c.know i) }

@[simp] theorem gen_log (c : Cfg τ A) (i : A) (op : ListOp τ A) : (c.gen i op).log = op :: c.log := rfl
@[simp] theorem deliver_log (c : Cfg τ A) (i : A) (op : ListOp τ A) : (c.deliver i op).log = c.log := rfl
@[simp] theorem gen_rep_same (c : Cfg τ A) (i : A) (op : ListOp τ A) : (c.gen i op).rep i = (c.rep i).apply op :=
  upd_same ..
@[simp] theorem gen_know_same (c : Cfg τ A) (i : A) (op : ListOp τ A) : (c.gen i op).know i = op :: c.know i :=
  upd_same ..
theorem gen_rep_other (c : Cfg τ A) {i j : A} (op : ListOp τ A) (h : j ≠ i) : (c.gen i op).rep j = c.rep j :=
  upd_other _ _ h
theorem gen_know_other (c : Cfg τ A) {i j : A} (op : ListOp τ A) (h : j ≠ i) : (c.gen i op).know j = c.know j :=
  upd_other _ _ h
@[simp] theorem deliver_rep_same (c : Cfg τ A) (i : A) (op : ListOp τ A) :
    (c.deliver i op).rep i = (c.rep i).apply op := upd_same ..
@[simp] theorem deliver_know_same (c : Cfg τ A) (i : A) (op : ListOp τ A) :
    (c.deliver i op).know i = op :: c.know i := upd_same ..
theorem deliver_rep_other (c : Cfg τ A) {i j : A} (op : ListOp τ A) (h : j ≠ i) : (c.deliver i op).rep j = c.rep j :=
  upd_other _ _ h
theorem deliver_know_other (c : Cfg τ A) {i j : A} (op : ListOp τ A) (h : j ≠ i) :
    (c.deliver i op).know j = c.know j := upd_other _ _ h

end Cfg

/-- one step of the system.  Ops are created by the first three constructors only, each being one API call evaluated at
the issuing replica's CURRENT state (with the replica's own actor id); `deliver` moves an existing op. -/
inductive Step : Cfg τ A → Cfg τ A → Prop
  /-- `let op = l.insert_index(ix, v, i); l.apply(op)` -/
  | insertIndex (c : Cfg τ A) (i : A) (ix : Nat) (v : τ) : Step c (c.gen i ((c.rep i).insertIndex ix v i))
  /-- `let op = l.append(v, i); l.apply(op)` -/
  | append (c : Cfg τ A) (i : A) (v : τ) : Step c (c.gen i ((c.rep i).append v i))
  /-- `if let Some(op) = l.delete_index(ix, i) { l.apply(op) }` -/
  | deleteIndex (c : Cfg τ A) (i : A) (ix : Nat) (op : ListOp τ A) :
      (c.rep i).deleteIndex ix i = some op → Step c (c.gen i op)
  /-- an op of the log is delivered to `i` (again, possibly): after all ops of the log by the same actor with a smaller
  counter, and a delete after an insert of the identifier it targets -/
  | deliver (c : Cfg τ A) (i : A) (op : ListOp τ A) :
      op ∈ c.log → ListSpec.Ok c.log (c.know i) op → Step c (c.deliver i op)

inductive Run : Cfg τ A → Prop
  | init : Run Cfg.init
  | step {c c' : Cfg τ A} : Run c → Step c c' → Run c'

inductive Steps : Cfg τ A → Cfg τ A → Prop
  | refl (c : Cfg τ A) : Steps c c
  | step {c c' c'' : Cfg τ A} : Steps c c' → Step c' c'' → Steps c c''

/-- a configuration that also records, for every generated op, everything its author knew when it built it -/
structure CfgC (τ A : Type) [LinOrd A] where
  cfg : Cfg τ A
  /-- `(op, D)`: `op` was generated at a replica whose knowledge was `D` -/
  deps : List (ListOp τ A × List (ListOp τ A))

namespace CfgC

def init : CfgC τ A := ⟨Cfg.init, []⟩

/-- `op` has just been built at replica `i`; its dependencies are what `i` knew -/
def gen (cc : CfgC τ A) (i : A) (op : ListOp τ A) : CfgC τ A := ⟨cc.cfg.gen i op, (op, cc.cfg.know i) :: cc.deps⟩

def deliver (cc : CfgC τ A) (i : A) (op : ListOp τ A) : CfgC τ A := ⟨cc.cfg.deliver i op, cc.deps⟩

end CfgC

/-- one step of the causal system: generation as before; an op is delivered to `i` only when `i` already knows
EVERYTHING the author knew when it generated the op (causal delivery; re-delivery is allowed) -/
inductive StepC : CfgC τ A → CfgC τ A → Prop
  | insertIndex (cc : CfgC τ A) (i : A) (ix : Nat) (v : τ) : StepC cc (cc.gen i ((cc.cfg.rep i).insertIndex ix v i))
  | append (cc : CfgC τ A) (i : A) (v : τ) : StepC cc (cc.gen i ((cc.cfg.rep i).append v i))
  | deleteIndex (cc : CfgC τ A) (i : A) (ix : Nat) (op : ListOp τ A) :
      (cc.cfg.rep i).deleteIndex ix i = some op → StepC cc (cc.gen i op)
  | deliver (cc : CfgC τ A) (i : A) (op : ListOp τ A) (D : List (ListOp τ A)) :
      (op, D) ∈ cc.deps → (∀ o ∈ D, o ∈ cc.cfg.know i) → StepC cc (cc.deliver i op)

inductive RunC : CfgC τ A → Prop
  | init : RunC CfgC.init
  | step {cc cc' : CfgC τ A} : RunC cc → StepC cc cc' → RunC cc'

end Crdt.SysList
