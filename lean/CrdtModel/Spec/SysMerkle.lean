import CrdtModel.Spec.MerkleReg
import CrdtModel.Spec.SysOrswot
/-!
# A system-level execution model for `MerkleReg`: nodes are only ever CREATED BY `write` ON THE HEADS JUST READ

The C15 theorems have the shape `InjOn hash U → merkleSys.Reach U s K → …` where `U`, "the nodes that exist in the history",
is given in advance, and several of them assume facts about which nodes exist (`write_resolves`: the node is new and nobody
lists it; orphans: the missing ancestors exist somewhere).  Here no universe is given: a configuration holds one replica per
site, and the only way a node comes into existence is the step

    `let node = reg.write(v, reg.read().hashes()); reg.apply(node)`

evaluated at the CURRENT state of the issuing replica and applied there at once.  Everything else moves existing nodes
(`deliver`: any node of the log, in ANY order, any number of times – `MerkleReg` has no delivery discipline) or states
(`merge`, `snapshot`, `mergeSnap`) around.

`Proofs/SysMerkle.lean`: all replica and saved states are `merkleSys.Reach`-derivable over the log, and every node of the
log was created after all its children (`ChildrenFirst`); `Props/SysMerkle.lean` feeds this into C15.  The one assumption
left: `hash` does not collide on the nodes of the log (`MerkleSpec.InjOn hash c.log`; sha3 is abstract).
-/
namespace Crdt.SysMerkle
open Crdt.Sys  -- `upd` (update of one replica's component), `upd_same`, `upd_other`: `Spec/SysOrswot.lean`

variable {H : Type} [LinOrd H] {τ A : Type} [LinOrd A]

structure Cfg (H : Type) [LinOrd H] (τ A : Type) [LinOrd A] where
  /-- current state of site `i`'s replica -/
  rep : A → MerkleReg H τ
  /-- nodes delivered to / created at it (newest first; duplicates are kept) -/
  know : A → List (Node H τ)
  /-- every node created so far (newest first; a node created twice – same value on the same heads – is listed twice) -/
  log : List (Node H τ)
  /-- saved states (backups, old snapshots, states in flight to a peer) with their knowledge -/
  snaps : List (MerkleReg H τ × List (Node H τ))

namespace Cfg
variable (hash : Node H τ → H)

def init : Cfg H τ A := ⟨fun _ => MerkleReg.init, fun _ => [], [], []⟩

/-- the node `write(v, read().hashes())` builds at replica `i` (src/merkle_reg.rs:116-118 on src/merkle_reg.rs:104-113) -/
def written (c : Cfg H τ A) (i : A) (v : τ) : Node H τ := (c.rep i).write v (MerkleReg.hashes (c.rep i).read)

/-- `nd` has just been built at replica `i`: it is applied there at once, remembered, and enters the log -/
def gen (c : Cfg H τ A) (i : A) (nd : Node H τ) : Cfg H τ A :=
  { c with rep := upd c.rep i (MerkleReg.apply hash (c.rep i) nd), know := upd c.know i (nd :: c.know i), log := nd :: c.log }

def deliver (c : Cfg H τ A) (i : A) (nd : Node H τ) : Cfg H τ A :=
  { c with rep := upd c.rep i (MerkleReg.apply hash (c.rep i) nd), know := upd c.know i (nd :: c.know i) }

def mergeIn (c : Cfg H τ A) (i : A) (s : MerkleReg H τ) (K : List (Node H τ)) : Cfg H τ A :=
  { c with rep := upd c.rep i (MerkleReg.merge hash (c.rep i) s), know := upd c.know i (c.know i ++ K) }

def snapshot (c : Cfg H τ A) (i : A) : Cfg H τ A := { c with snaps := (c.rep i, c.know i) :: c.snaps }

/-- the states the configuration holds, with their knowledge: the replicas and the saved states -/
inductive View (c : Cfg H τ A) : MerkleReg H τ → List (Node H τ) → Prop
  | rep (i : A) : View c (c.rep i) (c.know i)
  | snap {p : MerkleReg H τ × List (Node H τ)} : p ∈ c.snaps → View c p.1 p.2

@[simp] theorem gen_log (c : Cfg H τ A) (i : A) (nd : Node H τ) : (c.gen hash i nd).log = nd :: c.log := rfl
@[simp] theorem deliver_log (c : Cfg H τ A) (i : A) (nd : Node H τ) : (c.deliver hash i nd).log = c.log := rfl
@[simp] theorem mergeIn_log (c : Cfg H τ A) (i : A) (s : MerkleReg H τ) (K : List (Node H τ)) :
    (c.mergeIn hash i s K).log = c.log := rfl
@[simp] theorem snapshot_log (c : Cfg H τ A) (i : A) : (c.snapshot i).log = c.log := rfl
@[simp] theorem gen_rep_same (c : Cfg H τ A) (i : A) (nd : Node H τ) :
    (c.gen hash i nd).rep i = MerkleReg.apply hash (c.rep i) nd := upd_same ..
@[simp] theorem gen_know_same (c : Cfg H τ A) (i : A) (nd : Node H τ) : (c.gen hash i nd).know i = nd :: c.know i :=
  upd_same ..
@[simp] theorem deliver_rep_same (c : Cfg H τ A) (i : A) (nd : Node H τ) :
    (c.deliver hash i nd).rep i = MerkleReg.apply hash (c.rep i) nd := upd_same ..
@[simp] theorem deliver_know_same (c : Cfg H τ A) (i : A) (nd : Node H τ) :
    (c.deliver hash i nd).know i = nd :: c.know i := upd_same ..

end Cfg

/-- one step of the system: `write` creates a node, on ALL the heads its replica reads; the others move nodes / states around -/
inductive Step (hash : Node H τ → H) : Cfg H τ A → Cfg H τ A → Prop
  /-- `let nd = s.write(v, s.read().hashes()); s.apply(nd)` -/
  | write (c : Cfg H τ A) (i : A) (v : τ) : Step hash c (c.gen hash i (c.written i v))
  /-- a node of the log is delivered to `i`: any node, any time, again if it pleases (no delivery discipline) -/
  | deliver (c : Cfg H τ A) (i : A) (nd : Node H τ) : nd ∈ c.log → Step hash c (c.deliver hash i nd)
  /-- state-based sync: `i` merges `j`'s current state -/
  | merge (c : Cfg H τ A) (i j : A) : Step hash c (c.mergeIn hash i (c.rep j) (c.know j))
  /-- `i` saves its state (backup / state message in flight) -/
  | snapshot (c : Cfg H τ A) (i : A) : Step hash c (c.snapshot i)
  /-- `i` merges the `n`-th saved state (restores a backup, receives an old state message) -/
  | mergeSnap (c : Cfg H τ A) (i : A) (n : Nat) (p : MerkleReg H τ × List (Node H τ)) :
      c.snaps[n]? = some p → Step hash c (c.mergeIn hash i p.1 p.2)

inductive Run (hash : Node H τ → H) : Cfg H τ A → Prop
  | init : Run hash Cfg.init
  | step {c c' : Cfg H τ A} : Run hash c → Step hash c c' → Run hash c'

inductive Steps (hash : Node H τ → H) : Cfg H τ A → Cfg H τ A → Prop
  | refl (c : Cfg H τ A) : Steps hash c c
  | step {c c' c'' : Cfg H τ A} : Steps hash c c' → Step hash c' c'' → Steps hash c c''

/-- **every node was created after all its children**: each child hash of a node of the log is the hash of a node that is
STRICTLY OLDER in the log (the log is newest first).  Closure of the log under children and acyclicity of the child
relation are its two consequences.  That the logs of runs have this shape (`childrenFirst_run`) rests on `InjOn`: the
children a writer lists are the hashes of the heads it reads, and which nodes those are is known only through `hash`
(`C15.hashes_read_contains`). -/
inductive ChildrenFirst (hash : Node H τ → H) : List (Node H τ) → Prop
  | nil : ChildrenFirst hash []
  | cons {n : Node H τ} {l : List (Node H τ)} : ChildrenFirst hash l →
      (∀ x, n.children.contains x = true → ∃ m, m ∈ l ∧ hash m = x) → ChildrenFirst hash (n :: l)

/-- `m` is a child of `n`, both in the log -/
def Child (hash : Node H τ → H) (log : List (Node H τ)) (m n : Node H τ) : Prop :=
  m ∈ log ∧ n ∈ log ∧ n.children.contains (hash m) = true

/-- `Anc log m n`: `m` is `n` or one of its ancestors (child, child of a child, …) in the log -/
inductive Anc (hash : Node H τ → H) (log : List (Node H τ)) : Node H τ → Node H τ → Prop
  | refl (n : Node H τ) : Anc hash log n n
  | step {m k n : Node H τ} : Child hash log m k → Anc hash log k n → Anc hash log m n

end Crdt.SysMerkle
