import CrdtModel.Spec.List
import CrdtModel.Proofs.List
import CrdtModel.Proofs.VClock
set_option linter.unusedSectionVars false  -- several lemmas on `clk`, `Live`, `Deleted` below do not use `[LinOrd A]`
/-!
# The representation relation for `List` (src/list.rs)

* `LogWF U` – what generation through the API guarantees about the whole log: every op carries a dot with a positive
  counter (for an insert the dot is the LAST marker of its identifier, so the identifier is non-empty) and no two
  ops carry the same dot.  Consequently two inserts of the log with the same identifier are the same op.
* `Ok U K op` – the delivery discipline: every op of the log by the same actor with a smaller counter is known (the dot
  gate `op_dot.counter <= clock.get(actor)` of `apply` silently drops anything that arrives after a later op of its
  actor), and a `Delete` arrives after an `Insert` of the identifier it targets.  Every causal schedule satisfies both
  (`C12.causal_schedule_ok`).
* `Inv U K` – `K` is part of the log and closed under the discipline; that lets the dot gate decide membership
  (`mem_of_gated`).
* `Rep K s` – `s.clock` is per actor the largest delivered counter; `s.seq` holds exactly the live elements.
-/
namespace Crdt

namespace ListSpec
variable {τ A : Type} [LinOrd A]

structure LogWF (U : List (Op τ A)) : Prop where
  dot_pos : ∀ op ∈ U, ∃ d, op.dot = some d ∧ 0 < d.counter
  dot_unique : ∀ op ∈ U, ∀ op' ∈ U, op.dot = op'.dot → op = op'

/-- all ops (of the log) of the same actor with a smaller counter are known.  `U` is the whole log, ops generated after
this delivery included: harmless, since only smaller counters of the same actor count, and a log extended by a newer dot
asks nothing more of the older ops (`C12.predsIn_cons`, `C12.reach_extend`). -/
def PredsIn (U K : List (Op τ A)) (op : Op τ A) : Prop :=
  ∀ o ∈ U, ∀ d d', op.dot = some d → o.dot = some d' → d'.actor = d.actor → d'.counter < d.counter → o ∈ K

/-- a delete comes after an insert of the identifier it targets (the only cross-actor dependency that matters) -/
def TargetIn (K : List (Op τ A)) : Op τ A → Prop
  | .insert _ _ => True
  | .delete id _ => ∃ v, ListOp.insert id v ∈ K

def Ok (U K : List (Op τ A)) (op : Op τ A) : Prop := PredsIn U K op ∧ TargetIn K op

structure Inv (U K : List (Op τ A)) : Prop where
  sub : ∀ o ∈ K, o ∈ U
  closed : ∀ o ∈ K, Ok U K o

/-- `clock_nz` is there for `rep_functional`: equal `get` everywhere gives equal clocks only without zero entries
(`VClock.ext_get`) -/
structure Rep (K : List (Op τ A)) (s : ListCrdt τ A) : Prop where
  clock_nz : s.clock.NoZero
  clock : ∀ a, s.clock.get a = clk K a
  seq : ∀ id v, s.seq.get? id = some v ↔ Live K id v

section
variable {U K K' : List (Op τ A)} {op : Op τ A} {d : Dot A}

theorem ctr_of_dot (h : op.dot = some d) (a : A) : ctr a op = if d.actor = a then d.counter else 0 := by simp [ctr, h]

@[simp] theorem clk_cons (o : Op τ A) (K : List (Op τ A)) (a : A) : clk (o :: K) a = max (ctr a o) (clk K a) := rfl

theorem clk_congr (e : ∀ o, o ∈ K ↔ o ∈ K') (a : A) : clk K a = clk K' a := listMax_congr _ e

theorem le_clk (h : op ∈ K) (hd : op.dot = some d) : d.counter ≤ clk K d.actor := by
  have := le_listMax (ctr d.actor) h
  rwa [ctr_of_dot hd, if_pos rfl] at this

theorem clk_attained {a : A} (h : 0 < clk K a) :
    ∃ op ∈ K, ∃ d, op.dot = some d ∧ d.actor = a ∧ d.counter = clk K a := by
  obtain ⟨o, ho, e⟩ := listMax_attained (ctr a) K h
  rewrite [clk, ← e] at h ⊢
  cases hd : o.dot with
  | none => rewrite [ctr, hd] at h; cases h
  | some d =>
    rewrite [ctr_of_dot hd] at h ⊢
    split at h
    · next ha => exact ⟨o, ho, d, hd, ha, (if_pos ha).symm⟩
    · cases h

theorem live_congr (e : ∀ o, o ∈ K ↔ o ∈ K') (id : Id A) (v : τ) : Live K id v ↔ Live K' id v :=
  and_congr (e _) (not_congr (exists_congr fun _ => e _))

theorem deleted_cons_insert (K : List (Op τ A)) (id id' : Id A) (v : τ) : Deleted (.insert id v :: K) id' ↔ Deleted K id' :=
  exists_congr fun _ => ⟨fun h => (List.mem_cons.mp h).resolve_left nofun, List.mem_cons_of_mem _⟩

theorem deleted_cons_delete (K : List (Op τ A)) (id id' : Id A) (d : Dot A) :
    Deleted (.delete id d :: K) id' ↔ id' = id ∨ Deleted K id' := by
  simp only [Deleted, List.mem_cons, ListOp.delete.injEq, exists_or, exists_and_left, exists_eq, and_true]

/-- the step that `rep_apply` (insert case, `L = K`) and `get?_specSeqAux` share: a map holding the inserts of `L` that `K`
has not deleted, extended by an undeleted insert whose identifier names no other value in `L` -/
theorem get?_insert_live {m : FMap (Id A) τ} {L : List (Op τ A)} {i : Id A} {w : τ}
    (hm : ∀ id v, m.get? id = some v ↔ ListOp.insert id v ∈ L ∧ ¬ Deleted K id)
    (uq : ∀ v, ListOp.insert i v ∈ L → v = w) (nd : ¬ Deleted K i) (id : Id A) (v : τ) :
    (m.insert i w).get? id = some v ↔ ListOp.insert id v ∈ .insert i w :: L ∧ ¬ Deleted K id := by
  rewrite [FMap.get?_insert, List.mem_cons, ListOp.insert.injEq]
  split
  · next e =>
    subst e
    constructor
    · intro e
      exact ⟨.inl ⟨rfl, (Option.some.inj e).symm⟩, nd⟩
    · -- `v` is the new value, or a value that `L` gives the identifier: that is `w` too
      rintro ⟨h | h, _⟩
      · rw [h.2]
      · rw [uq v h]
  · next e => rw [hm, or_iff_right fun h => e h.1]

theorem live_cons_delete (K : List (Op τ A)) (id id' : Id A) (d : Dot A) (v : τ) :
    Live (.delete id d :: K) id' v ↔ id' ≠ id ∧ Live K id' v := by
  rewrite [Live, deleted_cons_delete, List.mem_cons, not_or]
  exact ⟨fun h => ⟨h.2.1, h.1.resolve_left nofun, h.2.2⟩, fun h => ⟨.inr h.2.1, h.1, h.2.2⟩⟩

theorem insert_same_id (wf : LogWF U) {id : Id A} {v v' : τ}
    (h : ListOp.insert id v ∈ U) (h' : ListOp.insert id v' ∈ U) : v = v' := by
  cases wf.dot_unique _ h _ h' rfl; rfl

theorem insert_id_nonempty (wf : LogWF U) {id : Id A} {v : τ} (h : ListOp.insert id v ∈ U) : id.path ≠ [] := by
  obtain ⟨d, hd, _⟩ := wf.dot_pos _ h
  exact ListOp.id_nonempty_of_dot hd

/-- **the dot gate decides membership**: an op of the log that the gate would drop is known.  `Inv` closes the knowledge
under per-actor predecessors, so a known op of the same actor with a counter at least as large forces this one in. -/
theorem mem_of_gated (wf : LogWF U) (inv : Inv U K) (hu : op ∈ U) (hd : op.dot = some d)
    (hle : d.counter ≤ clk K d.actor) : op ∈ K := by
  obtain ⟨d0, hd0, hpos⟩ := wf.dot_pos op hu
  cases hd.symm.trans hd0
  obtain ⟨o, ho, d', hd', ha, hc⟩ := clk_attained (K := K) (a := d.actor) (Nat.lt_of_lt_of_le hpos hle)
  rcases Nat.lt_or_eq_of_le (hc ▸ hle : d.counter ≤ d'.counter) with hlt | hn
  · exact (inv.closed o ho).1 op hu d' d hd' hd ha.symm hlt
  · -- the largest known counter of the actor is this op's: same dot, same op
    obtain ⟨a', n'⟩ := d'
    cases ha
    cases hn
    exact wf.dot_unique o (inv.sub o ho) op hu (hd'.trans hd.symm) ▸ ho

theorem ok_mono (h : ∀ o, o ∈ K → o ∈ K') (p : Ok U K op) : Ok U K' op := by
  refine ⟨fun o ho d d' h1 h2 h3 h4 => h o (p.1 o ho d d' h1 h2 h3 h4), ?_⟩
  cases op with
  | insert id v => trivial
  | delete id d => exact p.2.imp fun _ => h _

theorem inv_nil : Inv U [] := ⟨fun _ h => (nomatch h), fun _ h => (nomatch h)⟩

theorem inv_cons (inv : Inv U K) (hu : op ∈ U) (ok : Ok U K op) : Inv U (op :: K) :=
  ⟨List.forall_mem_cons.mpr ⟨hu, inv.sub⟩, fun o ho =>
    ok_mono (fun _ => List.mem_cons_of_mem _) (List.forall_mem_cons.mpr ⟨ok, inv.closed⟩ o ho)⟩

theorem inv_congr (e : ∀ o, o ∈ K ↔ o ∈ K') (inv : Inv U K) : Inv U K' :=
  ⟨fun o ho => inv.sub o ((e o).mpr ho), fun o ho => ok_mono (fun x => (e x).mp) (inv.closed o ((e o).mpr ho))⟩

end

theorem rep_init : Rep ([] : List (Op τ A)) (ListCrdt.new : ListCrdt τ A) := by
  refine ⟨VClock.noZero_empty, fun a => rfl, fun id v => ?_⟩
  simp [ListCrdt.new, Live]

theorem rep_congr {K K' : List (Op τ A)} {s : ListCrdt τ A} (e : ∀ o, o ∈ K ↔ o ∈ K') (h : Rep K s) : Rep K' s :=
  ⟨h.clock_nz, fun a => by rw [h.clock, clk_congr e], fun id v => by rw [h.seq, live_congr e]⟩

theorem rep_functional {K : List (Op τ A)} {s s' : ListCrdt τ A} (h : Rep K s) (h' : Rep K s') : s = s' := by
  have hc : s.clock = s'.clock := VClock.ext_get h.clock_nz h'.clock_nz (fun a => by rw [h.clock, h'.clock])
  have hs : s.seq = s'.seq := FMap.ext fun id => Option.ext fun v => by rw [h.seq, h'.seq]
  cases s; cases s'
  cases hc; cases hs
  rfl

theorem get_apply_ctr (c : VClock A) {op : Op τ A} {d : Dot A} (hd : op.dot = some d) (a : A) :
    (c.apply d).get a = max (c.get a) (ctr a op) := by rw [VClock.get_apply_max, ctr_of_dot hd, Nat.max_comm]

/-- **representation theorem, step**: delivering an op of the log to a knowledge that is closed under the discipline.
The op's own `Ok` is not needed for `Rep` (it is needed to keep `Inv`, i.e. to iterate the step): `K` closed is what this
step uses (the dot gate fires on known ops only: `mem_of_gated`; and `nd` below). -/
theorem rep_apply {U K : List (Op τ A)} {s : ListCrdt τ A} {op : Op τ A} (wf : LogWF U) (inv : Inv U K) (h : Rep K s)
    (hu : op ∈ U) : Rep (op :: K) (s.apply op) := by
  obtain ⟨d, hd, hpos⟩ := wf.dot_pos op hu
  rewrite [ListCrdt.apply_of_apply? (ListCrdt.apply?_of_dot s hd), h.clock]
  by_cases hk : op ∈ K
  · -- duplicate: gated, nothing changes
    rewrite [if_pos (le_clk hk hd)]
    exact rep_congr (fun o => ⟨List.mem_cons_of_mem _, fun x => (List.mem_cons.mp x).elim (· ▸ hk) id⟩) h
  · rewrite [if_neg fun hle => hk (mem_of_gated wf inv hu hd hle)]
    refine ⟨VClock.noZero_apply h.clock_nz d, fun a => by rw [get_apply_ctr _ hd, h.clock, clk_cons, Nat.max_comm],
      fun id' v' => ?_⟩
    cases op with
    | insert id v =>
      -- the identifier is fresh: a known insert of `id` would be THIS insert (same identifier ⇒ same dot ⇒ same op),
      -- and a known delete of `id` would have required one
      have fresh : ∀ w, ListOp.insert id w ∉ K := fun w hw => hk (insert_same_id wf (inv.sub _ hw) hu ▸ hw)
      have nd : ¬ Deleted K id := fun ⟨_, hd'⟩ => (inv.closed _ hd').2.elim fresh
      have hc : s.seq.get? id = none := Option.eq_none_iff_forall_ne_some.mpr fun w hw => fresh w ((h.seq id w).mp hw).1
      dsimp only
      rewrite [ListCrdt.insertEntry_of_get?_none hc, Live, deleted_cons_insert]
      exact get?_insert_live h.seq (fun w hw => (fresh w hw).elim) nd id' v'
    | delete id dt =>
      dsimp only
      rw [FMap.get?_erase, Option.ite_none_left_eq_some, h.seq, live_cons_delete]

end ListSpec
end Crdt
