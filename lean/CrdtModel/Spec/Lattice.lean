import CrdtModel.Model.Lattice
import CrdtModel.Proofs.VClock
import CrdtModel.Proofs.ListMax
import CrdtModel.Spec.RepSys
/-! Representation systems for the order-free types: VClock, GCounter, PNCounter, GSet, MaxReg, MinReg, LWWReg.
Delivery discipline: none (`Ok := True`): any order, any duplication, any merge pattern.  The one premise on the log is
LWWReg's, the property's own: a marker is used for one write (`WF := UniqueMarkers r0`, and `Inv := K ⊆ U` to apply it to
the known writes).  The registers' systems take the initial value as a parameter: in the crate it is
`Default::default()` (for LWWReg also `LWWReg::new`), and no proof depends on which value it is.  `LinOrd` has `<` only,
so "greatest" reads `¬ v < w` in `IsMaxOf` / `IsMinOf` / `IsLatest`. -/
namespace Crdt
open LinOrd

section clock
variable {α : Type} [LinOrd α]

/-- what the dot `d` contributes to actor `a`'s counter -/
def ctrOf (a : α) (d : Dot α) : Nat := if d.actor = a then d.counter else 0

/-- the clock holds, for every actor, the largest counter among the known dots – and stores no zero, without which
the counters would not determine the state (`VClock.ext_get`) -/
def VClockRep (K : List (Dot α)) (s : VClock α) : Prop :=
  s.NoZero ∧ ∀ a, s.get a = listMax (ctrOf a) K

theorem VClockRep.functional {K : List (Dot α)} {s s' : VClock α} (h : VClockRep K s) (h' : VClockRep K s') : s = s' :=
  VClock.ext_get h.1 h'.1 (fun a => by rw [h.2 a, h'.2 a])

theorem VClockRep.init : VClockRep ([] : List (Dot α)) ∅ := ⟨VClock.noZero_empty, fun _ => rfl⟩

theorem VClockRep.apply {K : List (Dot α)} {s : VClock α} (h : VClockRep K s) (d : Dot α) :
    VClockRep (d :: K) (s.apply d) := by
  refine ⟨VClock.noZero_apply h.1 d, fun a => ?_⟩
  rw [VClock.get_apply_max, listMax_cons, h.2 a, ctrOf]

theorem VClockRep.merge {K K' : List (Dot α)} {s s' : VClock α} (h : VClockRep K s) (h' : VClockRep K' s') :
    VClockRep (K ++ K') (s.merge s') :=
  ⟨VClock.noZero_merge h.1 s', fun a => by rw [VClock.get_merge, listMax_append, h.2 a, h'.2 a]⟩

theorem VClockRep.congr {K K' : List (Dot α)} {s : VClock α} (e : ∀ o, o ∈ K ↔ o ∈ K') (h : VClockRep K s) :
    VClockRep K' s :=
  ⟨h.1, fun a => by rewrite [h.2 a]; exact listMax_congr _ e⟩

def vclockSys : RepSys (VClock α) (Dot α) where
  init := ∅
  apply := VClock.apply
  merge := VClock.merge
  WF := fun _ => True
  Ok := fun _ _ _ => True
  Inv := fun _ _ => True
  Rep := fun _ K s => VClockRep K s
  inv_nil := trivial
  inv_cons := fun _ _ _ _ => trivial
  inv_append := fun _ _ => trivial
  inv_congr := fun _ _ => trivial
  ok_of_mem := fun _ _ _ => trivial
  rep_init := VClockRep.init
  rep_apply := fun _ _ h _ _ => h.apply _
  rep_merge := fun _ _ _ h h' => h.merge h'
  rep_congr := fun e h => h.congr e
  rep_functional := fun _ _ h h' => h.functional h'

theorem GCounter.ext {a b : GCounter α} (h : a.inner = b.inner) : a = b := by
  cases a; cases b; exact congrArg GCounter.mk h

def gcounterSys : RepSys (GCounter α) (Dot α) where
  init := GCounter.init
  apply := GCounter.apply
  merge := GCounter.merge
  WF := fun _ => True
  Ok := fun _ _ _ => True
  Inv := fun _ _ => True
  Rep := fun _ K s => VClockRep K s.inner
  inv_nil := trivial
  inv_cons := fun _ _ _ _ => trivial
  inv_append := fun _ _ => trivial
  inv_congr := fun _ _ => trivial
  ok_of_mem := fun _ _ _ => trivial
  rep_init := VClockRep.init
  rep_apply := fun _ _ h _ _ => h.apply _
  rep_merge := fun _ _ _ h h' => h.merge h'
  rep_congr := fun e h => h.congr e
  rep_functional := fun _ _ h h' => GCounter.ext (h.functional h')

/-- `ctrOf` for the ops of one direction -/
def dirCtr (dir : Dir) (a : α) (op : PNOp α) : Nat := if op.dir = dir then ctrOf a op.dot else 0

/-- `VClockRep` of both halves, each for the ops of its direction -/
def PNRep (K : List (PNOp α)) (s : PNCounter α) : Prop :=
  (s.p.inner.NoZero ∧ ∀ a, s.p.inner.get a = listMax (dirCtr .pos a) K) ∧
  (s.n.inner.NoZero ∧ ∀ a, s.n.inner.get a = listMax (dirCtr .neg a) K)

theorem PNCounter.ext {a b : PNCounter α} (h1 : a.p.inner = b.p.inner) (h2 : a.n.inner = b.n.inner) : a = b := by
  cases a; cases b; exact congr (congrArg PNCounter.mk (GCounter.ext h1)) (GCounter.ext h2)

def pncounterSys : RepSys (PNCounter α) (PNOp α) where
  init := PNCounter.init
  apply := PNCounter.apply
  merge := PNCounter.merge
  WF := fun _ => True
  Ok := fun _ _ _ => True
  Inv := fun _ _ => True
  Rep := fun _ K s => PNRep K s
  inv_nil := trivial
  inv_cons := fun _ _ _ _ => trivial
  inv_append := fun _ _ => trivial
  inv_congr := fun _ _ => trivial
  ok_of_mem := fun _ _ _ => trivial
  rep_init := ⟨⟨VClock.noZero_empty, fun _ => rfl⟩, ⟨VClock.noZero_empty, fun _ => rfl⟩⟩
  rep_apply := by
    intro U K s op _ _ h _ _
    obtain ⟨⟨hp1, hp2⟩, ⟨hn1, hn2⟩⟩ := h
    cases hd : op.dir with
    | pos =>
      simp only [PNCounter.apply, hd]
      refine ⟨⟨VClock.noZero_apply hp1 _, fun a => ?_⟩, ⟨hn1, fun a => ?_⟩⟩
      · simp only [GCounter.apply, VClock.get_apply, listMax_cons, hp2 a, dirCtr, hd, ctrOf, if_true]
        by_cases e : a = op.dot.actor
        · subst e; simp only [if_true]; omega
        · have e' : ¬ op.dot.actor = a := fun x => e x.symm
          simp only [e, e', if_false]; omega
      · simp only [listMax_cons, hn2 a, dirCtr, hd]; simp
    | neg =>
      simp only [PNCounter.apply, hd]
      refine ⟨⟨hp1, fun a => ?_⟩, ⟨VClock.noZero_apply hn1 _, fun a => ?_⟩⟩
      · simp only [listMax_cons, hp2 a, dirCtr, hd]; simp
      · simp only [GCounter.apply, VClock.get_apply, listMax_cons, hn2 a, dirCtr, hd, ctrOf, if_true]
        by_cases e : a = op.dot.actor
        · subst e; simp only [if_true]; omega
        · have e' : ¬ op.dot.actor = a := fun x => e x.symm
          simp only [e, e', if_false]; omega
  rep_merge := by
    intro U K K' s s' _ _ _ h h'
    exact ⟨⟨VClock.noZero_merge h.1.1 _, fun a => by
              simp only [PNCounter.merge, GCounter.merge, VClock.get_merge, listMax_append, h.1.2 a, h'.1.2 a]⟩,
           ⟨VClock.noZero_merge h.2.1 _, fun a => by
              simp only [PNCounter.merge, GCounter.merge, VClock.get_merge, listMax_append, h.2.2 a, h'.2.2 a]⟩⟩
  rep_congr := fun e h =>
    ⟨⟨h.1.1, fun a => by rw [h.1.2 a]; exact listMax_congr _ e⟩, ⟨h.2.1, fun a => by rw [h.2.2 a]; exact listMax_congr _ e⟩⟩
  rep_functional := fun _ _ h h' =>
    PNCounter.ext (VClock.ext_get h.1.1 h'.1.1 (fun a => by rw [h.1.2 a, h'.1.2 a]))
      (VClock.ext_get h.2.1 h'.2.1 (fun a => by rw [h.2.2 a, h'.2.2 a]))

end clock

section gset
variable {τ : Type} [LinOrd τ]

theorem GSet.contains_insert (s : GSet τ) (x y : τ) : (s.insert x).contains y = true ↔ (y = x ∨ s.contains y = true) :=
  FMap.contains_insert

theorem GSet.contains_merge (s o : GSet τ) (y : τ) :
    (s.merge o).contains y = true ↔ (s.contains y = true ∨ o.contains y = true) :=
  -- the loop only inserts: `y` is in the result iff it was in `s` or some step inserts it, i.e. it is a key of `o`
  (List.foldl_or (fun (acc : GSet τ) (p : τ × Unit) => acc.insert p.1) (·.contains y = true) (·.1 = y)
    (fun s p => (GSet.contains_insert s p.1 y).trans (or_comm.trans (or_congr_right eq_comm))) o.value.l s).trans
    (or_congr_right (List.mem_map.symm.trans FMap.mem_keys_iff))

theorem GSet.ext {a b : GSet τ} (h : ∀ x, a.contains x = b.contains x) : a = b := by
  cases a; cases b; exact congrArg GSet.mk (FMap.fset_ext h)

theorem GSet.ext_of_contains_iff {a b : GSet τ} (h : ∀ x, a.contains x = true ↔ b.contains x = true) : a = b :=
  GSet.ext fun x => Bool.eq_iff_iff.mpr (h x)

def gsetSys : RepSys (GSet τ) τ where
  init := GSet.init
  apply := GSet.apply
  merge := GSet.merge
  WF := fun _ => True
  Ok := fun _ _ _ => True
  Inv := fun _ _ => True
  Rep := fun _ K s => ∀ x, s.contains x = true ↔ x ∈ K
  inv_nil := trivial
  inv_cons := fun _ _ _ _ => trivial
  inv_append := fun _ _ => trivial
  inv_congr := fun _ _ => trivial
  ok_of_mem := fun _ _ _ => trivial
  rep_init := fun x => by simp [GSet.init, GSet.contains, FMap.contains]
  rep_apply := fun _ _ h _ _ x => by simp only [GSet.apply, GSet.contains_insert, List.mem_cons, h x]
  rep_merge := fun _ _ _ h h' x => by simp only [GSet.contains_merge, List.mem_append, h x, h' x]
  rep_congr := fun e h x => by rw [h x]; exact e x
  rep_functional := fun _ _ h h' => GSet.ext (fun x => by
    have a := h x; have b := h' x
    cases h1 : GSet.contains _ x <;> cases h2 : GSet.contains _ x <;> simp_all)

end gset

section reg
variable {ν : Type} [LinOrd ν]

/-- `v` is a maximum of `v0 :: K` -/
def IsMaxOf (v0 : ν) (K : List ν) (v : ν) : Prop := (v = v0 ∨ v ∈ K) ∧ ¬ v < v0 ∧ ∀ w ∈ K, ¬ v < w

theorem IsMaxOf.unique {v0 : ν} {K : List ν} {a b : ν} (ha : IsMaxOf v0 K a) (hb : IsMaxOf v0 K b) : a = b := by
  apply not_lt_antisymm
  · rcases hb.1 with e | e
    · subst e; exact ha.2.1
    · exact ha.2.2 _ e
  · rcases ha.1 with e | e
    · subst e; exact hb.2.1
    · exact hb.2.2 _ e

def maxregSys (v0 : ν) : RepSys (MaxReg ν) ν where
  init := ⟨v0⟩
  apply := MaxReg.apply
  merge := MaxReg.merge
  WF := fun _ => True
  Ok := fun _ _ _ => True
  Inv := fun _ _ => True
  Rep := fun _ K s => IsMaxOf v0 K s.val
  inv_nil := trivial
  inv_cons := fun _ _ _ _ => trivial
  inv_append := fun _ _ => trivial
  inv_congr := fun _ _ => trivial
  ok_of_mem := fun _ _ _ => trivial
  rep_init := ⟨Or.inl rfl, lt_irrefl _, fun _ h => by cases h⟩
  rep_apply := by
    intro U K s op _ _ h _ _
    simp only [MaxReg.apply, MaxReg.update]
    split
    · next lt =>
      refine ⟨Or.inr (by simp), ?_, ?_⟩
      · exact fun x => h.2.1 (lt_trans lt x)
      · intro w hw
        rcases List.mem_cons.mp hw with e | e
        · subst e; exact lt_irrefl _
        · exact fun x => h.2.2 w e (lt_trans lt x)
    · next nlt =>
      refine ⟨h.1.imp id (List.mem_cons_of_mem _), h.2.1, ?_⟩
      intro w hw
      rcases List.mem_cons.mp hw with e | e
      · subst e; exact nlt
      · exact h.2.2 w e
  rep_merge := by
    intro U K K' s s' _ _ _ h h'
    simp only [MaxReg.merge, MaxReg.update]
    split
    · next lt =>
      refine ⟨h'.1.imp id (fun x => List.mem_append.mpr (Or.inr x)), h'.2.1, ?_⟩
      intro w hw
      rcases List.mem_append.mp hw with e | e
      · exact fun x => h.2.2 w e (lt_trans lt x)
      · exact h'.2.2 w e
    · next nlt =>
      refine ⟨h.1.imp id (fun x => List.mem_append.mpr (Or.inl x)), h.2.1, ?_⟩
      intro w hw
      rcases List.mem_append.mp hw with e | e
      · exact h.2.2 w e
      · exact not_lt_trans nlt (h'.2.2 w e)
  rep_congr := fun e h => ⟨h.1.imp id (e _).mp, h.2.1, fun w hw => h.2.2 w ((e w).mpr hw)⟩
  rep_functional := fun _ _ h h' => by
    have := h.unique h'
    rename_i s s' _ _
    cases s; cases s'; simp at this; subst this; rfl

/-- `v` is a minimum of `v0 :: K` -/
def IsMinOf (v0 : ν) (K : List ν) (v : ν) : Prop := (v = v0 ∨ v ∈ K) ∧ ¬ v0 < v ∧ ∀ w ∈ K, ¬ w < v

theorem IsMinOf.unique {v0 : ν} {K : List ν} {a b : ν} (ha : IsMinOf v0 K a) (hb : IsMinOf v0 K b) : a = b := by
  apply not_lt_antisymm
  · rcases ha.1 with e | e
    · subst e; exact hb.2.1
    · exact hb.2.2 _ e
  · rcases hb.1 with e | e
    · subst e; exact ha.2.1
    · exact ha.2.2 _ e

def minregSys (v0 : ν) : RepSys (MinReg ν) ν where
  init := ⟨v0⟩
  apply := MinReg.apply
  merge := MinReg.merge
  WF := fun _ => True
  Ok := fun _ _ _ => True
  Inv := fun _ _ => True
  Rep := fun _ K s => IsMinOf v0 K s.val
  inv_nil := trivial
  inv_cons := fun _ _ _ _ => trivial
  inv_append := fun _ _ => trivial
  inv_congr := fun _ _ => trivial
  ok_of_mem := fun _ _ _ => trivial
  rep_init := ⟨Or.inl rfl, lt_irrefl _, fun _ h => by cases h⟩
  rep_apply := by
    intro U K s op _ _ h _ _
    simp only [MinReg.apply, MinReg.update]
    split
    · next lt =>
      refine ⟨Or.inr (by simp), ?_, ?_⟩
      · exact fun x => h.2.1 (lt_trans x lt)
      · intro w hw
        rcases List.mem_cons.mp hw with e | e
        · subst e; exact lt_irrefl _
        · exact fun x => h.2.2 w e (lt_trans x lt)
    · next nlt =>
      refine ⟨h.1.imp id (List.mem_cons_of_mem _), h.2.1, ?_⟩
      intro w hw
      rcases List.mem_cons.mp hw with e | e
      · subst e; exact nlt
      · exact h.2.2 w e
  rep_merge := by
    intro U K K' s s' _ _ _ h h'
    simp only [MinReg.merge, MinReg.update]
    split
    · next lt =>
      refine ⟨h'.1.imp id (fun x => List.mem_append.mpr (Or.inr x)), h'.2.1, ?_⟩
      intro w hw
      rcases List.mem_append.mp hw with e | e
      · exact fun x => h.2.2 w e (lt_trans x lt)
      · exact h'.2.2 w e
    · next nlt =>
      refine ⟨h.1.imp id (fun x => List.mem_append.mpr (Or.inl x)), h.2.1, ?_⟩
      intro w hw
      rcases List.mem_append.mp hw with e | e
      · exact h.2.2 w e
      · exact not_lt_trans (h'.2.2 w e) nlt
  rep_congr := fun e h => ⟨h.1.imp id (e _).mp, h.2.1, fun w hw => h.2.2 w ((e w).mpr hw)⟩
  rep_functional := fun _ _ h h' => by
    have := h.unique h'
    rename_i s s' _ _
    cases s; cases s'; simp at this; subst this; rfl

end reg

section lww
variable {ν μ : Type} [DecidableEq ν] [LinOrd μ]

/-- `s` is a write of `r0 :: K` with a greatest marker -/
def IsLatest (r0 : LWWReg ν μ) (K : List (LWWReg ν μ)) (s : LWWReg ν μ) : Prop :=
  (s = r0 ∨ s ∈ K) ∧ ¬ s.marker < r0.marker ∧ ∀ o ∈ K, ¬ s.marker < o.marker

/-- markers are used once: two writes (or the initial register) with the same marker are the same write.  `r0` is
included because a write carrying the initial marker with another value would be a second candidate for `IsLatest`. -/
def UniqueMarkers (r0 : LWWReg ν μ) (U : List (LWWReg ν μ)) : Prop :=
  ∀ a b, (a = r0 ∨ a ∈ U) → (b = r0 ∨ b ∈ U) → a.marker = b.marker → a = b

def lwwSys (r0 : LWWReg ν μ) : RepSys (LWWReg ν μ) (LWWReg ν μ) where
  init := r0
  apply := LWWReg.apply
  merge := LWWReg.merge
  WF := UniqueMarkers r0
  Ok := fun _ _ _ => True
  Inv := fun U K => ∀ o ∈ K, o ∈ U
  Rep := fun _ K s => IsLatest r0 K s
  inv_nil := fun _ h => by cases h
  inv_cons := fun _ hk hu _ o ho => by
    rcases List.mem_cons.mp ho with e | e
    · subst e; exact hu
    · exact hk o e
  inv_append := fun h h' o ho => (List.mem_append.mp ho).elim (h o) (h' o)
  inv_congr := fun e h o ho => h o ((e o).mpr ho)
  ok_of_mem := fun _ _ _ => trivial
  rep_init := ⟨Or.inl rfl, lt_irrefl _, fun _ h => by cases h⟩
  rep_apply := by
    intro U K s op _ _ h _ _
    simp only [LWWReg.apply, LWWReg.merge, LWWReg.update]
    split
    · next lt =>
      refine ⟨Or.inr (by simp), ?_, ?_⟩
      · exact fun x => h.2.1 (lt_trans lt x)
      · intro w hw
        rcases List.mem_cons.mp hw with e | e
        · subst e; exact lt_irrefl _
        · exact fun x => h.2.2 w e (lt_trans lt x)
    · next nlt =>
      refine ⟨h.1.imp id (List.mem_cons_of_mem _), h.2.1, ?_⟩
      intro w hw
      rcases List.mem_cons.mp hw with e | e
      · subst e; exact nlt
      · exact h.2.2 w e
  rep_merge := by
    intro U K K' s s' _ _ _ h h'
    simp only [LWWReg.merge, LWWReg.update]
    split
    · next lt =>
      refine ⟨h'.1.imp id (fun x => List.mem_append.mpr (Or.inr x)), h'.2.1, ?_⟩
      intro w hw
      rcases List.mem_append.mp hw with e | e
      · exact fun x => h.2.2 w e (lt_trans lt x)
      · exact h'.2.2 w e
    · next nlt =>
      refine ⟨h.1.imp id (fun x => List.mem_append.mpr (Or.inl x)), h.2.1, ?_⟩
      intro w hw
      rcases List.mem_append.mp hw with e | e
      · exact h.2.2 w e
      · exact not_lt_trans nlt (h'.2.2 w e)
  rep_congr := fun e h => ⟨h.1.imp id (e _).mp, h.2.1, fun w hw => h.2.2 w ((e w).mpr hw)⟩
  rep_functional := by
    intro U K s s' wf inv h h'
    apply wf s s' (h.1.imp id (inv s)) (h'.1.imp id (inv s'))
    apply not_lt_antisymm
    · rcases h'.1 with e | e
      · rw [e]; exact h.2.1
      · exact h.2.2 _ e
    · rcases h.1 with e | e
      · rw [e]; exact h'.2.1
      · exact h'.2.2 _ e

end lww
end Crdt
