/-!
# Execution model with state equality *up to an equivalence*

The execution model and the fields are explained in the header of `Spec/RepSys.lean`.  Here it is stated for types whose
state carries representation noise (for `MVReg`: the arrival order of the `Vec`): two states representing the same
knowledge are only required to be `Equiv`alent, and the corollaries hold up to `Equiv`.  They are proved here; `RepSys` is
the case `Equiv := Eq`.
-/
namespace Crdt

structure RepSysE (σ ω : Type) where
  init : σ
  apply : σ → ω → σ
  merge : σ → σ → σ
  /-- what "the same state" means (an equivalence relation) -/
  Equiv : σ → σ → Prop
  /-- well-formedness of the whole log (what generation through the API guarantees) -/
  WF : List ω → Prop
  /-- delivery discipline: may `op` be applied by a replica that knows `K`? -/
  Ok : List ω → List ω → ω → Prop
  /-- knowledge sets the discipline can produce (⊆ U, closed as the discipline requires) -/
  Inv : List ω → List ω → Prop
  Rep : List ω → List ω → σ → Prop
  equiv_refl : ∀ s, Equiv s s
  equiv_symm : ∀ {s t}, Equiv s t → Equiv t s
  equiv_trans : ∀ {s t u}, Equiv s t → Equiv t u → Equiv s u
  inv_nil : ∀ {U}, Inv U []
  inv_cons : ∀ {U K op}, WF U → Inv U K → op ∈ U → Ok U K op → Inv U (op :: K)
  inv_append : ∀ {U K K'}, Inv U K → Inv U K' → Inv U (K ++ K')
  inv_congr : ∀ {U K K'}, (∀ o, o ∈ K ↔ o ∈ K') → Inv U K → Inv U K'
  ok_of_mem : ∀ {U K op}, WF U → Inv U K → op ∈ K → Ok U K op
  rep_init : ∀ {U}, Rep U [] init
  rep_apply : ∀ {U K s op}, WF U → Inv U K → Rep U K s → op ∈ U → Ok U K op → Rep U (op :: K) (apply s op)
  rep_merge : ∀ {U K K' s s'}, WF U → Inv U K → Inv U K' → Rep U K s → Rep U K' s' → Rep U (K ++ K') (merge s s')
  rep_congr : ∀ {U K K' s}, (∀ o, o ∈ K ↔ o ∈ K') → Rep U K s → Rep U K' s
  /-- the representation does not see the noise … -/
  rep_equiv : ∀ {U K s s'}, Rep U K s → Equiv s s' → Rep U K s'
  /-- … and determines the state up to it -/
  rep_functional : ∀ {U K s s'}, WF U → Inv U K → Rep U K s → Rep U K s' → Equiv s s'

namespace RepSysE
variable {σ ω : Type} (R : RepSysE σ ω)

/-- derivable replica states with their knowledge -/
inductive Reach (U : List ω) : σ → List ω → Prop
  | init : Reach U R.init []
  | apply {s K op} : Reach U s K → op ∈ U → R.Ok U K op → Reach U (R.apply s op) (op :: K)
  | merge {s K s' K'} : Reach U s K → Reach U s' K' → Reach U (R.merge s s') (K ++ K')

variable {R} {U : List ω}

/-- the generic half of every representation theorem: a derivable state represents its knowledge.  The per-type half is
the `rep_*` fields; all corollaries below go through `converge`, which is this and `rep_functional`. -/
theorem reach_rep (wf : R.WF U) {s : σ} {K : List ω} (h : R.Reach U s K) : R.Inv U K ∧ R.Rep U K s := by
  induction h with
  | init => exact ⟨R.inv_nil, R.rep_init⟩
  | apply _ hu hok ih => exact ⟨R.inv_cons wf ih.1 hu hok, R.rep_apply wf ih.1 ih.2 hu hok⟩
  | merge _ _ ih1 ih2 => exact ⟨R.inv_append ih1.1 ih2.1, R.rep_merge wf ih1.1 ih2.1 ih1.2 ih2.2⟩

/-- equal knowledge ⇒ equivalent state, for any two replicas or snapshots, however each one got there -/
theorem converge (wf : R.WF U) {s s' : σ} {K K' : List ω} (h : R.Reach U s K) (h' : R.Reach U s' K')
    (e : ∀ o, o ∈ K ↔ o ∈ K') : R.Equiv s s' :=
  have b := reach_rep wf h'
  R.rep_functional wf b.1 (R.rep_congr e (reach_rep wf h).2) b.2

/-- merging realises the union of knowledge -/
theorem merge_is_union (wf : R.WF U) {s s' t : σ} {K K' L : List ω} (h : R.Reach U s K) (h' : R.Reach U s' K')
    (ht : R.Reach U t L) (e : ∀ o, o ∈ L ↔ (o ∈ K ∨ o ∈ K')) : R.Equiv (R.merge s s') t :=
  converge wf (Reach.merge h h') ht fun o => List.mem_append.trans (e o).symm

theorem merge_comm (wf : R.WF U) {s s' : σ} {K K' : List ω} (h : R.Reach U s K) (h' : R.Reach U s' K') :
    R.Equiv (R.merge s s') (R.merge s' s) :=
  converge wf (Reach.merge h h') (Reach.merge h' h) fun _ => by simp only [List.mem_append, or_comm]

theorem merge_assoc (wf : R.WF U) {a b c : σ} {Ka Kb Kc : List ω} (ha : R.Reach U a Ka) (hb : R.Reach U b Kb)
    (hc : R.Reach U c Kc) : R.Equiv (R.merge (R.merge a b) c) (R.merge a (R.merge b c)) :=
  converge wf (Reach.merge (Reach.merge ha hb) hc) (Reach.merge ha (Reach.merge hb hc))
    fun _ => by simp only [List.mem_append, or_assoc]

theorem merge_idem (wf : R.WF U) {s : σ} {K : List ω} (h : R.Reach U s K) : R.Equiv (R.merge s s) s :=
  converge wf (Reach.merge h h) h fun _ => by simp only [List.mem_append, or_self]

/-- re-applying a known op changes nothing -/
theorem dup_noop (wf : R.WF U) {s : σ} {K : List ω} (h : R.Reach U s K) {op : ω} (hu : op ∈ U) (hk : op ∈ K) :
    R.Equiv (R.apply s op) s :=
  converge wf (Reach.apply h hu (R.ok_of_mem wf (reach_rep wf h).1 hk)) h
    fun _ => ⟨fun x => (List.mem_cons.mp x).elim (· ▸ hk) id, List.mem_cons_of_mem _⟩

/-- merging a state whose knowledge is already known (old snapshot, own past, lagging peer) changes nothing -/
theorem stale_noop (wf : R.WF U) {s s' : σ} {K K' : List ω} (h : R.Reach U s K) (h' : R.Reach U s' K')
    (sub : ∀ o, o ∈ K' → o ∈ K) : R.Equiv (R.merge s s') s :=
  converge wf (Reach.merge h h') h fun o => by simp only [List.mem_append, or_iff_left_of_imp (sub o)]

theorem apply_comm (wf : R.WF U) {s : σ} {K : List ω} (h : R.Reach U s K) {o₁ o₂ : ω} (h₁ : o₁ ∈ U) (h₂ : o₂ ∈ U)
    (ok₁ : R.Ok U K o₁) (ok₂ : R.Ok U K o₂) (ok₁₂ : R.Ok U (o₁ :: K) o₂) (ok₂₁ : R.Ok U (o₂ :: K) o₁) :
    R.Equiv (R.apply (R.apply s o₁) o₂) (R.apply (R.apply s o₂) o₁) :=
  converge wf (Reach.apply (Reach.apply h h₁ ok₁) h₂ ok₁₂) (Reach.apply (Reach.apply h h₂ ok₂) h₁ ok₂₁)
    fun _ => by simp only [List.mem_cons, or_left_comm]

end RepSysE
end Crdt
