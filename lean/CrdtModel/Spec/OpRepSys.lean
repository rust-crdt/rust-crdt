/-!
# Execution model for op-based types WITHOUT a state merge (`CmRDT` only, e.g. `List`)

The merge-free sibling of `Spec/RepSys.lean`, whose header explains `U`, `K`, `Reach` and the fields.  The corollaries are
proved as in `Spec/RepSysEquiv.lean`, without the merge cases; `listSys` is the one instance.
-/
namespace Crdt

structure OpRepSys (σ ω : Type) where
  init : σ
  apply : σ → ω → σ
  /-- well-formedness of the whole log (what generation through the API guarantees) -/
  WF : List ω → Prop
  /-- delivery discipline: may `op` be applied by a replica that knows `K`? -/
  Ok : List ω → List ω → ω → Prop
  /-- knowledge sets the discipline can produce (⊆ U, closed as the discipline requires) -/
  Inv : List ω → List ω → Prop
  Rep : List ω → List ω → σ → Prop
  inv_nil : ∀ {U}, Inv U []
  inv_cons : ∀ {U K op}, WF U → Inv U K → op ∈ U → Ok U K op → Inv U (op :: K)
  inv_congr : ∀ {U K K'}, (∀ o, o ∈ K ↔ o ∈ K') → Inv U K → Inv U K'
  ok_of_mem : ∀ {U K op}, WF U → Inv U K → op ∈ K → Ok U K op
  rep_init : ∀ {U}, Rep U [] init
  rep_apply : ∀ {U K s op}, WF U → Inv U K → Rep U K s → op ∈ U → Ok U K op → Rep U (op :: K) (apply s op)
  rep_congr : ∀ {U K K' s}, (∀ o, o ∈ K ↔ o ∈ K') → Rep U K s → Rep U K' s
  rep_functional : ∀ {U K s s'}, WF U → Inv U K → Rep U K s → Rep U K s' → s = s'

namespace OpRepSys
variable {σ ω : Type} (R : OpRepSys σ ω)

/-- derivable replica states with their knowledge -/
inductive Reach (U : List ω) : σ → List ω → Prop
  | init : Reach U R.init []
  | apply {s K op} : Reach U s K → op ∈ U → R.Ok U K op → Reach U (R.apply s op) (op :: K)

variable {R} {U : List ω}

theorem reach_rep (wf : R.WF U) {s : σ} {K : List ω} (h : R.Reach U s K) : R.Inv U K ∧ R.Rep U K s := by
  induction h with
  | init => exact ⟨R.inv_nil, R.rep_init⟩
  | apply _ hu hok ih => exact ⟨R.inv_cons wf ih.1 hu hok, R.rep_apply wf ih.1 ih.2 hu hok⟩

/-- equal knowledge ⇒ equal state, for any two replicas (or the same replica at two times), however each got there -/
theorem converge (wf : R.WF U) {s s' : σ} {K K' : List ω} (h : R.Reach U s K) (h' : R.Reach U s' K')
    (e : ∀ o, o ∈ K ↔ o ∈ K') : s = s' :=
  have b := reach_rep wf h'
  R.rep_functional wf b.1 (R.rep_congr e (reach_rep wf h).2) b.2

/-- re-applying a known op changes nothing -/
theorem dup_noop (wf : R.WF U) {s : σ} {K : List ω} (h : R.Reach U s K) {op : ω} (hu : op ∈ U) (hk : op ∈ K) :
    R.apply s op = s :=
  converge wf (Reach.apply h hu (R.ok_of_mem wf (reach_rep wf h).1 hk)) h
    fun _ => ⟨fun x => (List.mem_cons.mp x).elim (· ▸ hk) id, List.mem_cons_of_mem _⟩

theorem reach_sub {s : σ} {K : List ω} (h : R.Reach U s K) : ∀ o ∈ K, o ∈ U := by
  induction h with
  | init => exact List.forall_mem_nil _
  | apply _ hu _ ih => exact List.forall_mem_cons.mpr ⟨hu, ih⟩

end OpRepSys
end Crdt
