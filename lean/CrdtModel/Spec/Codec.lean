import CrdtModel.Spec.RepSys
import CrdtModel.Spec.RepSysEquiv
import CrdtModel.Model.Codec
/-!
# Execution model with persistence steps (C19)

`ReachP` extends the derivations of `Spec/RepSys.lean` (any interleaving of applies, duplicates, merges of live or stale
states) by one more rule: at ANY point a replica may be serialised and replaced by whatever deserialisation returns
(restart from disk, shipping the state to a peer).  The step exists only when serialisation succeeds.  With a codec that
round-trips the extended system derives exactly the (state, knowledge) pairs of the original one (`C19.persist_anywhere`),
so every theorem about `Reach` (convergence, merge laws, reads, …) holds with persistence steps anywhere in the history.
-/
namespace Crdt

namespace RepSys
variable {σ ω : Type} (R : RepSys σ ω) (c : Codec σ)

inductive ReachP (U : List ω) : σ → List ω → Prop
  | init : ReachP U R.init []
  | apply {s K op} : ReachP U s K → op ∈ U → R.Ok U K op → ReachP U (R.apply s op) (op :: K)
  | merge {s K s' K'} : ReachP U s K → ReachP U s' K' → ReachP U (R.merge s s') (K ++ K')
  /-- serialise, deserialise, continue with the restored value -/
  | persist {s K j s'} : ReachP U s K → c.enc s = .ok j → c.dec j = some s' → ReachP U s' K

end RepSys

namespace RepSysE
variable {σ ω : Type} (R : RepSysE σ ω) (c : Codec σ)

inductive ReachP (U : List ω) : σ → List ω → Prop
  | init : ReachP U R.init []
  | apply {s K op} : ReachP U s K → op ∈ U → R.Ok U K op → ReachP U (R.apply s op) (op :: K)
  | merge {s K s' K'} : ReachP U s K → ReachP U s' K' → ReachP U (R.merge s s') (K ++ K')
  | persist {s K j s'} : ReachP U s K → c.enc s = .ok j → c.dec j = some s' → ReachP U s' K

end RepSysE

/-! ### the same for any type given by `init` / `apply` / `merge`: no `Ok`, no knowledge index

`Runs`: every state obtainable from `init` by applying ANY ops in any order and merging any obtainable states;
`RunsP`: the same with persistence steps. -/
structure StateSys (σ ω : Type) where
  init : σ
  apply : σ → ω → σ
  merge : σ → σ → σ

namespace StateSys
variable {σ ω : Type} (S : StateSys σ ω) (c : Codec σ)

inductive Runs : σ → Prop
  | init : Runs S.init
  | apply {s} (op : ω) : Runs s → Runs (S.apply s op)
  | merge {s s'} : Runs s → Runs s' → Runs (S.merge s s')

inductive RunsP : σ → Prop
  | init : RunsP S.init
  | apply {s} (op : ω) : RunsP s → RunsP (S.apply s op)
  | merge {s s'} : RunsP s → RunsP s' → RunsP (S.merge s s')
  | persist {s j s'} : RunsP s → c.enc s = .ok j → c.dec j = some s' → RunsP s'

end StateSys
end Crdt
