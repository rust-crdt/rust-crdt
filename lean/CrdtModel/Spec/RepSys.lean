import CrdtModel.Spec.RepSysEquiv
/-!
# Execution model and the generic consequences of a representation theorem

`U` is the *universe of ops of the history* (every op ever generated, by anyone).  A replica state is
`Reach`-derivable with knowledge list `K` (the ops it has learned, duplicates included) if it can be obtained
from the initial state by applying ops of `U` that the delivery discipline `Ok` admits (an op already known may
be applied again) and by merging any two derivable states – another replica's current state, an old snapshot,
its own past: each has a derivation, so "all schedules, all merge patterns, any number of replicas" is "all derivations".

A `RepSys` packages, for one CRDT type, the representation relation `Rep U K s` ("`s` is what a replica that
knows exactly the ops in `K` must hold") with the facts proved about it per type.  The corollaries are proved once
from those facts, in `Spec/RepSysEquiv.lean` for state equality up to an equivalence; this file takes them over for
`Equiv := Eq` (`toE`).  `Reach` is an inductive of its own and not `R.toE.Reach`, so that taking a derivation apart
(`induction`, `cases`) yields `R.apply` and `R.merge` and no projections of `R.toE`; `Reach.toE` is the bridge.  A type
with a state merge instantiates `RepSys` (`RepSysE` if equal knowledge gives equal states only up to noise: `mvregSys`),
one without merge `OpRepSys`.

`Inv U K` is what the per-type proofs need to know of a knowledge list by itself: `True` for the types whose `WF` says
nothing of `U`, `K ⊆ U` where `WF U` must be brought to bear on `K` (LWWReg, MVReg, MerkleReg), that and closure under
the delivery discipline for Orswot and List.  It stands apart from `Rep` because both arguments of a merge must have
it.  `ok_of_mem` is what `dup_noop` re-delivers with.  `K` is a list for convenience only: `rep_congr` and `inv_congr`
make everything depend on its members.  `Rep` takes `U` for uniformity with `Ok` and `Inv`; no instance looks at it.
-/
namespace Crdt

structure RepSys (σ ω : Type) where
  init : σ
  apply : σ → ω → σ
  merge : σ → σ → σ
  /-- well-formedness of the whole log (what generation through the API guarantees) -/
  WF : List ω → Prop
  /-- delivery discipline: may `op` be applied by a replica that knows `K`? -/
  Ok : List ω → List ω → ω → Prop
  /-- knowledge sets the discipline can produce (⊆ U, closed as the discipline requires) -/
  Inv : List ω → List ω → Prop
  Rep : List ω → List ω → σ → Prop
  inv_nil : ∀ {U}, Inv U []
  inv_cons : ∀ {U K op}, WF U → Inv U K → op ∈ U → Ok U K op → Inv U (op :: K)
  inv_append : ∀ {U K K'}, Inv U K → Inv U K' → Inv U (K ++ K')
  inv_congr : ∀ {U K K'}, (∀ o, o ∈ K ↔ o ∈ K') → Inv U K → Inv U K'
  ok_of_mem : ∀ {U K op}, WF U → Inv U K → op ∈ K → Ok U K op
  rep_init : ∀ {U}, Rep U [] init
  rep_apply : ∀ {U K s op}, WF U → Inv U K → Rep U K s → op ∈ U → Ok U K op → Rep U (op :: K) (apply s op)
  rep_merge : ∀ {U K K' s s'}, WF U → Inv U K → Inv U K' → Rep U K s → Rep U K' s' → Rep U (K ++ K') (merge s s')
  rep_congr : ∀ {U K K' s}, (∀ o, o ∈ K ↔ o ∈ K') → Rep U K s → Rep U K' s
  rep_functional : ∀ {U K s s'}, WF U → Inv U K → Rep U K s → Rep U K s' → s = s'

namespace RepSys
variable {σ ω : Type} (R : RepSys σ ω)

/-- derivable replica states with their knowledge -/
inductive Reach (U : List ω) : σ → List ω → Prop
  | init : Reach U R.init []
  | apply {s K op} : Reach U s K → op ∈ U → R.Ok U K op → Reach U (R.apply s op) (op :: K)
  | merge {s K s' K'} : Reach U s K → Reach U s' K' → Reach U (R.merge s s') (K ++ K')

variable {R} {U : List ω}

def toE (R : RepSys σ ω) : RepSysE σ ω :=
  { R with Equiv := Eq, equiv_refl := fun _ => rfl, equiv_symm := Eq.symm, equiv_trans := Eq.trans,
           rep_equiv := fun h e => e ▸ h }

theorem Reach.toE {s : σ} {K : List ω} (h : R.Reach U s K) : R.toE.Reach U s K := by
  induction h with
  | init => exact .init
  | apply _ hu hok ih => exact .apply ih hu hok
  | merge _ _ ih1 ih2 => exact .merge ih1 ih2

theorem reach_sub {s : σ} {K : List ω} (h : R.Reach U s K) : ∀ o ∈ K, o ∈ U := by
  induction h with
  | init => exact List.forall_mem_nil _
  | apply _ hu _ ih => exact List.forall_mem_cons.mpr ⟨hu, ih⟩
  | merge _ _ ih1 ih2 => exact List.forall_mem_append.mpr ⟨ih1, ih2⟩

theorem reach_rep (wf : R.WF U) {s : σ} {K : List ω} (h : R.Reach U s K) : R.Inv U K ∧ R.Rep U K s :=
  RepSysE.reach_rep (R := R.toE) wf h.toE

/-- C01 / C08 / C20: equal knowledge ⇒ equal state (hence equal reads and contexts), for any two replicas or
snapshots, however each one got there -/
theorem converge (wf : R.WF U) {s s' : σ} {K K' : List ω} (h : R.Reach U s K) (h' : R.Reach U s' K')
    (e : ∀ o, o ∈ K ↔ o ∈ K') : s = s' :=
  RepSysE.converge (R := R.toE) wf h.toE h'.toE e

/-- C03: merging realises the union of knowledge -/
theorem merge_is_union (wf : R.WF U) {s s' t : σ} {K K' L : List ω} (h : R.Reach U s K) (h' : R.Reach U s' K')
    (ht : R.Reach U t L) (e : ∀ o, o ∈ L ↔ (o ∈ K ∨ o ∈ K')) : R.merge s s' = t :=
  RepSysE.merge_is_union (R := R.toE) wf h.toE h'.toE ht.toE e

/-- C02 -/
theorem merge_comm (wf : R.WF U) {s s' : σ} {K K' : List ω} (h : R.Reach U s K) (h' : R.Reach U s' K') :
    R.merge s s' = R.merge s' s :=
  RepSysE.merge_comm (R := R.toE) wf h.toE h'.toE

theorem merge_assoc (wf : R.WF U) {a b c : σ} {Ka Kb Kc : List ω} (ha : R.Reach U a Ka) (hb : R.Reach U b Kb)
    (hc : R.Reach U c Kc) : R.merge (R.merge a b) c = R.merge a (R.merge b c) :=
  RepSysE.merge_assoc (R := R.toE) wf ha.toE hb.toE hc.toE

theorem merge_idem (wf : R.WF U) {s : σ} {K : List ω} (h : R.Reach U s K) : R.merge s s = s :=
  RepSysE.merge_idem (R := R.toE) wf h.toE

theorem merge_laws (wf : R.WF U) {a b c : σ} {Ka Kb Kc : List ω} (ha : R.Reach U a Ka) (hb : R.Reach U b Kb)
    (hc : R.Reach U c Kc) :
    R.merge a b = R.merge b a ∧ R.merge (R.merge a b) c = R.merge a (R.merge b c) ∧ R.merge a a = a :=
  ⟨merge_comm wf ha hb, merge_assoc wf ha hb hc, merge_idem wf ha⟩

/-- C09: re-applying a known op changes nothing -/
theorem dup_noop (wf : R.WF U) {s : σ} {K : List ω} (h : R.Reach U s K) {op : ω} (hu : op ∈ U) (hk : op ∈ K) :
    R.apply s op = s :=
  RepSysE.dup_noop (R := R.toE) wf h.toE hu hk

/-- C09: merging a state whose knowledge is already known (old snapshot, own past, lagging peer) changes nothing -/
theorem stale_noop (wf : R.WF U) {s s' : σ} {K K' : List ω} (h : R.Reach U s K) (h' : R.Reach U s' K')
    (sub : ∀ o, o ∈ K' → o ∈ K) : R.merge s s' = s :=
  RepSysE.stale_noop (R := R.toE) wf h.toE h'.toE sub

/-- the knowledge of a derivable state satisfies the invariant `Inv` of its type (that it lies in `U` is `reach_sub`) -/
theorem reach_knowledge_subset (wf : R.WF U) {s : σ} {K : List ω} (h : R.Reach U s K) : R.Inv U K := (reach_rep wf h).1

end RepSys
end Crdt
