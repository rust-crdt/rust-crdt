import CrdtModel.Spec.OrswotExec
import CrdtModel.Proofs.OrswotBasic
set_option linter.unusedSectionVars false
/-! The representation relation `Rep K s` and the facts about `clk`, `Mx`, `θ`, `E` on which `rep_apply` and `rep_merge`
rest.  Subtracting a remove context from a witness is a threshold (`Ev`), and thresholds compose by `max` (`Ev_Ev`):
re-running a table of removes becomes arithmetic in the table's threshold `dThr` (`entryGet_run`), which in a
representing state lies between two bounds (`Rep.dThr_le`, `Rep.θ_le`). -/
namespace Crdt
namespace OrswotSpec
variable {M A : Type} [LinOrd M] [LinOrd A]
open Orswot

/-- log well-formedness (what generation through the API guarantees): a dot names one add; remove contexts
store no zero (they are state clocks).  Nothing is asked of an add's counter: a dot with counter 0 may be logged;
`apply` skips it and it adds nothing to `clk`, `Mx` (first case of `rep_apply_add`). -/
structure LogWF (U : List (Op M A)) : Prop where
  dot_unique : ∀ d ms ms', OrswotOp.add d ms ∈ U → OrswotOp.add d ms' ∈ U → ms = ms'
  rm_nz : ∀ c ms, OrswotOp.rm c ms ∈ U → c.NoZero

/-- the delivery premise of an add with dot `d`: `K` has every earlier add of `d.actor` in the log -/
def PredsIn (U K : List (Op M A)) (d : Dot A) : Prop :=
  ∀ d' ms', OrswotOp.add d' ms' ∈ U → d'.actor = d.actor → d'.counter < d.counter → OrswotOp.add d' ms' ∈ K

/-- delivery discipline: per-actor FIFO **on adds only**; removes may arrive at any time, in any order -/
def Ok (U K : List (Op M A)) : Op M A → Prop
  | .add d _ => PredsIn U K d
  | .rm _ _ => True

/-- the dot an op consumed at its author -/
def addDot : Op M A → Option (Dot A)
  | .add d _ => some d
  | .rm _ _ => none

/-- `LogWF` as two checks on the lists of add dots and of remove contexts: on a concrete log both are finite, `by decide` -/
theorem LogWF.of_nodup {U : List (Op M A)} (hd : (U.filterMap addDot).Nodup)
    (hz : ∀ c ∈ U.filterMap rmClockOf, VClockSpec.noZero c = true) : LogWF U :=
  ⟨fun d _ _ h h' => by cases List.eq_of_nodup_filterMap hd h h' d rfl rfl; rfl,
    fun c _ h => (VClockSpec.noZero_iff c).mp (hz c (List.mem_filterMap.mpr ⟨_, h, rfl⟩))⟩

/-- an actor's first add (counter 1) has no predecessor to wait for -/
theorem predsIn_one {U K : List (Op M A)} (pos : ∀ o ∈ U, ∀ d, addDot o = some d → 0 < d.counter) (a : A) :
    PredsIn U K ⟨a, 1⟩ :=
  fun _ _ hu _ hlt => absurd (pos _ hu _ rfl) (Nat.not_lt.mpr (Nat.le_of_lt_succ hlt))

/-- `K` is a part of the log that is add-closed: with an add it contains every earlier add of the same actor.  This is
what delivering each actor's adds in order maintains (`inv_cons`), and all that the proofs use of that order. -/
structure Inv (U K : List (Op M A)) : Prop where
  sub : ∀ o ∈ K, o ∈ U
  closed : ∀ d ms, OrswotOp.add d ms ∈ K → PredsIn U K d

/-- `s` is the state of a replica that has learned exactly the ops `K`: clock, witnesses and deferred table are the
specification functions of `K`.  `clock_nz` and `ewf` (no stored zero; no stored empty clock: the crate drops an entry
whose clock becomes empty, src/orswot.rs:166-168, 278-280, 209-210) make such a state unique (`rep_functional`), since
`clock` and `entries` speak through `get` only.  `def_some`, `def_mem` describe the `None | Some(Greater)` branch of
`apply_rm`. -/
structure Rep (K : List (Op M A)) (s : Orswot M A) : Prop where
  clock_nz : s.clock.NoZero
  clock : ∀ a, s.clock.get a = clk K a
  ewf : EntriesWF s.entries
  entries : ∀ m a, entryGet s.entries m a = E K m a
  def_some : ∀ c, (s.deferred.get? c).isSome = true ↔ ((∃ ms, OrswotOp.rm c ms ∈ K) ∧ pending K c)
  def_mem : ∀ c S, s.deferred.get? c = some S → ∀ m, S.contains m = true ↔ rmMembers K c m

theorem addCtrOf_le_addCtr (m : M) (a : A) (o : Op M A) : addCtrOf m a o ≤ addCtr a o := by
  cases o with
  | add d ms =>
    dsimp only [addCtrOf, addCtr]
    by_cases h : d.actor = a ∧ m ∈ ms
    · rewrite [if_pos h, if_pos h.1]; exact Nat.le_refl _
    · rewrite [if_neg h]; exact Nat.zero_le _
  | rm c ms => exact Nat.le_refl 0

theorem Mx_le_clk (K : List (Op M A)) (m : M) (a : A) : Mx K m a ≤ clk K a :=
  listMax_le_listMax K (addCtrOf_le_addCtr m a)

@[simp] theorem clk_cons (o : Op M A) (K : List (Op M A)) (a : A) : clk (o :: K) a = max (addCtr a o) (clk K a) := rfl
@[simp] theorem Mx_cons (o : Op M A) (K : List (Op M A)) (m : M) (a : A) :
    Mx (o :: K) m a = max (addCtrOf m a o) (Mx K m a) := rfl
@[simp] theorem θ_cons (o : Op M A) (K : List (Op M A)) (m : M) (a : A) :
    θ (o :: K) m a = max (rmCtr m a o) (θ K m a) := rfl

theorem get_apply_addCtr (c : VClock A) (d : Dot A) (ms : List M) (a : A) :
    (c.apply d).get a = max (addCtr a (OrswotOp.add d ms)) (c.get a) := VClock.get_apply_max c d a

theorem clk_append (K K' : List (Op M A)) (a : A) : clk (K ++ K') a = max (clk K a) (clk K' a) := listMax_append _ K K'
theorem Mx_append (K K' : List (Op M A)) (m : M) (a : A) : Mx (K ++ K') m a = max (Mx K m a) (Mx K' m a) :=
  listMax_append _ K K'
theorem θ_append (K K' : List (Op M A)) (m : M) (a : A) : θ (K ++ K') m a = max (θ K m a) (θ K' m a) :=
  listMax_append _ K K'

theorem clk_congr {K K' : List (Op M A)} (e : ∀ o, o ∈ K ↔ o ∈ K') (a : A) : clk K a = clk K' a := listMax_congr _ e
theorem E_congr {K K' : List (Op M A)} (e : ∀ o, o ∈ K ↔ o ∈ K') (m : M) (a : A) : E K m a = E K' m a := by
  unfold E Mx θ; rw [listMax_congr _ e, listMax_congr (rmCtr m a) e]

theorem clk_attained {K : List (Op M A)} {a : A} (h : 0 < clk K a) :
    ∃ d ms, OrswotOp.add d ms ∈ K ∧ d.actor = a ∧ d.counter = clk K a := by
  obtain ⟨o, ho, e⟩ := listMax_attained (addCtr a) K h
  have hpos : 0 < addCtr a o := e ▸ h
  cases o with
  | add d ms =>
    by_cases ha : d.actor = a
    · exact ⟨d, ms, ho, ha, (if_pos ha).symm.trans e⟩
    · exact absurd (Nat.lt_of_lt_of_eq hpos (if_neg ha)) (Nat.lt_irrefl 0)
  | rm c ms => exact absurd hpos (Nat.lt_irrefl 0)

theorem Mx_attained {K : List (Op M A)} {m : M} {a : A} (h : 0 < Mx K m a) :
    ∃ d ms, OrswotOp.add d ms ∈ K ∧ d.actor = a ∧ m ∈ ms ∧ d.counter = Mx K m a := by
  obtain ⟨o, ho, e⟩ := listMax_attained (addCtrOf m a) K h
  have hpos : 0 < addCtrOf m a o := e ▸ h
  cases o with
  | add d ms =>
    by_cases ha : d.actor = a ∧ m ∈ ms
    · exact ⟨d, ms, ho, ha.1, ha.2, (if_pos ha).symm.trans e⟩
    · exact absurd (Nat.lt_of_lt_of_eq hpos (if_neg ha)) (Nat.lt_irrefl 0)
  | rm c ms => exact absurd hpos (Nat.lt_irrefl 0)

theorem θ_attained {K : List (Op M A)} {m : M} {a : A} (h : 0 < θ K m a) :
    ∃ c ms, OrswotOp.rm c ms ∈ K ∧ m ∈ ms ∧ c.get a = θ K m a := by
  obtain ⟨o, ho, e⟩ := listMax_attained (rmCtr m a) K h
  have hpos : 0 < rmCtr m a o := e ▸ h
  cases o with
  | add d ms => exact absurd hpos (Nat.lt_irrefl 0)
  | rm c ms =>
    by_cases hm : m ∈ ms
    · exact ⟨c, ms, ho, hm, (if_pos hm).symm.trans e⟩
    · exact absurd (Nat.lt_of_lt_of_eq hpos (if_neg hm)) (Nat.lt_irrefl 0)

theorem le_θ {K : List (Op M A)} {c : VClock A} {ms : List M} (h : OrswotOp.rm c ms ∈ K) {m : M} (hm : m ∈ ms) (a : A) :
    c.get a ≤ θ K m a := by
  have := le_listMax (rmCtr m a) h
  simpa [rmCtr, hm, θ] using this

theorem le_clk {K : List (Op M A)} {d : Dot A} {ms : List M} (h : OrswotOp.add d ms ∈ K) : d.counter ≤ clk K d.actor := by
  have := le_listMax (addCtr d.actor) h
  simpa [addCtr, clk] using this

theorem le_Mx {K : List (Op M A)} {d : Dot A} {ms : List M} (h : OrswotOp.add d ms ∈ K) {m : M} (hm : m ∈ ms) :
    d.counter ≤ Mx K m d.actor := by
  have := le_listMax (addCtrOf m d.actor) h
  simpa [addCtrOf, hm, Mx] using this

/-- a newest add `M` survives removes covering up to `θ`.  Every way the crate subtracts a context from a witness
(`Orswot::apply_rm`, `reset_remove`, re-running the parked removes) is `Ev` in the remover's counter, and subtracting
twice is subtracting the larger (`Ev_Ev`). -/
def Ev (M θ : Nat) : Nat := if M > θ then M else 0

theorem Ev_of_lt {e t : Nat} (h : t < e) : Ev e t = e := if_pos h
theorem Ev_of_le {e t : Nat} (h : e ≤ t) : Ev e t = 0 := if_neg (Nat.not_lt.2 h)
theorem Ev_cases (e t : Nat) : (t < e ∧ Ev e t = e) ∨ (e ≤ t ∧ Ev e t = 0) :=
  (Nat.lt_or_ge t e).imp (fun h => ⟨h, Ev_of_lt h⟩) fun h => ⟨h, Ev_of_le h⟩
@[simp] theorem Ev_zero (e : Nat) : Ev e 0 = e := (Nat.eq_zero_or_pos e).elim (by rintro rfl; rfl) Ev_of_lt
theorem Ev_pos {e t : Nat} : 0 < Ev e t ↔ t < e := by
  unfold Ev; split
  · next h => exact iff_of_true (Nat.zero_lt_of_lt h) h
  · next h => exact iff_of_false (Nat.lt_irrefl 0) h
theorem Ev_eq_zero {e t : Nat} : Ev e t = 0 ↔ e ≤ t := by
  unfold Ev; split
  · next h => exact iff_of_false (Nat.ne_of_gt (Nat.zero_lt_of_lt h)) (Nat.not_le.2 h)
  · next h => exact iff_of_true rfl (Nat.le_of_not_lt h)
theorem Ev_le (e t : Nat) : Ev e t ≤ e := by
  unfold Ev; split
  · exact Nat.le_refl e
  · exact Nat.zero_le e
theorem le_max_of_Ev_le {e t b : Nat} (h : Ev e t ≤ b) : e ≤ max b t := by
  unfold Ev at h
  split at h
  · exact Nat.le_trans h (Nat.le_max_left _ _)
  · exact Nat.le_trans (Nat.le_of_not_lt ‹_›) (Nat.le_max_right _ _)
theorem Ev_mono {e e' t t' : Nat} (he : e ≤ e') (ht : t' ≤ t) : Ev e t ≤ Ev e' t' := by
  rcases Ev_cases e t with ⟨h, x⟩ | ⟨_, x⟩ <;> rewrite [x]
  · rewrite [Ev_of_lt (Nat.lt_of_le_of_lt ht (Nat.lt_of_lt_of_le h he))]; exact he
  · exact Nat.zero_le _

theorem Ev_max (e e' t : Nat) : Ev (max e e') t = max (Ev e t) (Ev e' t) := by
  rcases Nat.le_total e e' with h | h
  · rw [Nat.max_eq_right h, Nat.max_eq_right (Ev_mono h (Nat.le_refl t))]
  · rw [Nat.max_eq_left h, Nat.max_eq_left (Ev_mono h (Nat.le_refl t))]

theorem Ev_ite (e t : Nat) : (if e ≤ t then 0 else e) = Ev e t := by
  unfold Ev
  by_cases h : e ≤ t
  · rw [if_pos h, if_neg (Nat.not_lt.2 h)]
  · rw [if_neg h, if_pos (Nat.lt_of_not_le h)]

theorem Ev_Ev (e t t' : Nat) : Ev (Ev e t) t' = Ev e (max t t') := by
  rcases Ev_cases e t with ⟨h, x⟩ | ⟨h, x⟩ <;> rewrite [x]
  · rcases Ev_cases e t' with ⟨h', x'⟩ | ⟨h', x'⟩ <;> rewrite [x']
    · exact (Ev_of_lt (Nat.max_lt.2 ⟨h, h'⟩)).symm
    · exact (Ev_of_le (Nat.le_trans h' (Nat.le_max_right t t'))).symm
  · rw [Ev_of_le (Nat.zero_le t'), Ev_of_le (Nat.le_trans h (Nat.le_max_left t t'))]

theorem Ev_eq_of_le {e t t' : Nat} (h1 : t ≤ t') (h2 : 0 < e → e ≤ t' → e ≤ t) : Ev e t = Ev e t' := by
  rcases Ev_cases e t' with ⟨h, x⟩ | ⟨h, x⟩ <;> rewrite [x]
  · exact Ev_of_lt (Nat.lt_of_le_of_lt h1 h)
  · by_cases hz : e = 0
    · rewrite [hz]; exact Ev_of_le (Nat.zero_le t)
    · exact Ev_of_le (h2 (Nat.pos_of_ne_zero hz) h)

/-- beyond `c`, thresholds that differ only within `c` subtract the same -/
theorem Ev_max_eq_of_lt {e c u t t' : Nat} (hc : c < e) (h1 : t' ≤ max u t) (h2 : t ≤ max c t') :
    Ev e (max u t') = Ev e (max u t) :=
  Ev_eq_of_le (Nat.max_le.2 ⟨Nat.le_max_left u t, h1⟩) fun _ hle => by
    -- `e ≤ u` stays; `e ≤ t ≤ max c t'` with `c < e` leaves `e ≤ t'`
    rewrite [Std.le_max] at hle ⊢
    exact hle.imp_right fun x => (Std.le_max.1 (Nat.le_trans x h2)).resolve_left (Nat.not_le.2 hc)

theorem E_eq_Ev (K : List (Op M A)) (m : M) (a : A) : E K m a = Ev (Mx K m a) (θ K m a) := rfl
theorem E_le_clk (K : List (Op M A)) (m : M) (a : A) : E K m a ≤ clk K a :=
  Nat.le_trans (Ev_le _ _) (Mx_le_clk K m a)

theorem E_attained {K : List (Op M A)} {m : M} {a : A} (h : E K m a ≠ 0) :
    ∃ d ms, OrswotOp.add d ms ∈ K ∧ d.actor = a ∧ m ∈ ms ∧ d.counter = E K m a := by
  rcases Ev_cases (Mx K m a) (θ K m a) with ⟨hlt, e⟩ | ⟨_, e⟩
  · rewrite [E_eq_Ev, e]; exact Mx_attained (Nat.zero_lt_of_lt hlt)
  · exact absurd e h

theorem live_dot_mem {K : List (Op M A)} {m : M} {a : A} (h : E K m a ≠ 0) :
    ∃ ms, OrswotOp.add ⟨a, E K m a⟩ ms ∈ K ∧ m ∈ ms := by
  obtain ⟨d, ms, hin, rfl, hm, hc⟩ := E_attained h
  exact ⟨ms, hc ▸ hin, hm⟩

theorem add_mem_of_le_clk {U K : List (Op M A)} (wf : LogWF U) (inv : Inv U K) {d : Dot A} {ms : List M}
    (hu : OrswotOp.add d ms ∈ U) (hpos : 0 < d.counter) (hle : d.counter ≤ clk K d.actor) : OrswotOp.add d ms ∈ K := by
  -- `d2`: the newest add of that actor in `K`.  `d` is older (then `K`, being add-closed, has it) or carries the same dot
  -- (then it IS `d2`, a dot naming one add)
  obtain ⟨d2, ms2, hd2, ha2, hc2⟩ := clk_attained (Nat.lt_of_lt_of_le hpos hle)
  by_cases hlt : d.counter < d2.counter
  · exact inv.closed d2 ms2 hd2 d ms hu ha2.symm hlt
  · have : d = d2 := by
      cases d; cases d2
      simp only [Dot.mk.injEq] at *
      exact ⟨ha2.symm, Nat.le_antisymm (hc2 ▸ hle) (Nat.le_of_not_lt hlt)⟩
    subst this
    rewrite [wf.dot_unique d ms ms2 hu (inv.sub _ hd2)]; exact hd2

theorem Mx_le_of_le_clk {U K K' : List (Op M A)} (wf : LogWF U) (inv : Inv U K) (inv' : Inv U K')
    (m : M) (a : A) (h : Mx K' m a ≤ clk K a) : Mx K' m a ≤ Mx K m a := by
  by_cases hz : Mx K' m a = 0
  · rewrite [hz]; exact Nat.zero_le _
  · have hpos : 0 < Mx K' m a := Nat.pos_of_ne_zero hz
    obtain ⟨d, ms, hd, rfl, hm, hc⟩ := Mx_attained hpos
    rewrite [← hc] at h hpos ⊢
    exact le_Mx (add_mem_of_le_clk wf inv (inv'.sub _ hd) hpos h) hm

theorem covers_Ev (c : VClock A) (a : A) (e : Nat) : (if covers c a e then 0 else e) = Ev e (c.get a) := by
  unfold covers VClock.get
  cases c.dots.get? a with
  | none => simp only [Bool.false_eq_true, if_false, Option.getD_none, Ev_zero]
  | some n => simp only [decide_eq_true_eq, Option.getD_some, Ev_ite]

theorem entryGet_applyRm_Ev (s : Orswot M A) (ms : FSet M) (c : VClock A) (m : M) (a : A) :
    entryGet (applyRm s ms c).entries m a = Ev (entryGet s.entries m a) (if ms.contains m then c.get a else 0) := by
  rewrite [entryGet_applyRm]
  cases ms.contains m
  · simp only [Bool.false_and, Bool.false_eq_true, if_false, Ev_zero]
  · simp only [Bool.true_and, if_true, covers_Ev]

/-- the threshold view of a deferred table: how far its removes that name `m` cover actor `a` (the table's own `θ`) -/
def dThr (D : FMap (VClock A) (FSet M)) (m : M) (a : A) : Nat :=
  listMax (fun p => if p.2.contains m then p.1.get a else 0) D.l

theorem entryGet_foldRm_Ev (l : List (VClock A × FSet M)) (s : Orswot M A) (m : M) (a : A) :
    entryGet (foldRm l s).entries m a =
      Ev (entryGet s.entries m a) (listMax (fun p => if p.2.contains m then p.1.get a else 0) l) := by
  induction l generalizing s with
  | nil => exact (Ev_zero _).symm
  | cons p t ih =>
    show entryGet (foldRm t (applyRm s p.2 p.1)).entries m a = _
    rw [ih, entryGet_applyRm_Ev, Ev_Ev, listMax_cons]

theorem entryGet_run (D : FMap (VClock A) (FSet M)) (s : Orswot M A) (m : M) (a : A) :
    entryGet (foldRm D.l s).entries m a = Ev (entryGet s.entries m a) (dThr D m a) := entryGet_foldRm_Ev D.l s m a

theorem dThr_le_iff (D : FMap (VClock A) (FSet M)) (m : M) (a : A) (t : Nat) :
    dThr D m a ≤ t ↔ ∀ c, DMem D c m → c.get a ≤ t := by
  unfold dThr
  rewrite [listMax_le_iff]
  constructor
  · rintro h c ⟨S, hS, hm⟩
    simpa only [hm, if_true] using h (c, S) (FMap.mem_l_iff.mpr hS)
  · intro h p hp
    split
    · next hm => exact h p.1 ⟨p.2, FMap.mem_l_iff.mp hp, hm⟩
    · exact Nat.zero_le _

/-- what a run of table `D` subtracts, with what it leaves parked, is `D` with what was parked before -/
theorem max_dThr_run (D : FMap (VClock A) (FSet M)) (s : Orswot M A) (m : M) (a : A) :
    max (dThr D m a) (dThr (foldRm D.l s).deferred m a) = max (dThr s.deferred m a) (dThr D m a) := by
  -- two numbers with the same upper bounds are equal; the upper bounds of a `dThr` are read off the table's members
  have key : ∀ t, max (dThr D m a) (dThr (foldRm D.l s).deferred m a) ≤ t ↔
      max (dThr s.deferred m a) (dThr D m a) ≤ t := by
    intro t
    simp only [Nat.max_le, dThr_le_iff, dMem_run]
    constructor
    · rintro ⟨hD, h2⟩; exact ⟨fun c hc => h2 c (.inl hc), hD⟩
    · rintro ⟨hs, hD⟩; exact ⟨hD, fun c hc => hc.elim (hs c) fun x => hD c x.2⟩
  exact Nat.le_antisymm ((key _).mpr (Nat.le_refl _)) ((key _).mp (Nat.le_refl _))

theorem Rep.dKey {K : List (Op M A)} {s : Orswot M A} (h : Rep K s) (c : VClock A) :
    DKey s.deferred c ↔ ((∃ ms, OrswotOp.rm c ms ∈ K) ∧ pending K c) := h.def_some c

theorem Rep.dMem {K : List (Op M A)} {s : Orswot M A} (h : Rep K s) (c : VClock A) (m : M) :
    DMem s.deferred c m ↔ (pending K c ∧ rmMembers K c m) := by
  constructor
  · rintro ⟨S, hS, hm⟩
    exact ⟨((h.def_some c).mp (dKey_of_get? hS)).2, (h.def_mem c S hS m).mp hm⟩
  · rintro ⟨hp, ms, hin, hm⟩
    obtain ⟨S, hS⟩ := Option.isSome_iff_exists.mp ((h.def_some c).mpr ⟨⟨ms, hin⟩, hp⟩)
    exact ⟨S, hS, (h.def_mem c S hS m).mpr ⟨ms, hin, hm⟩⟩

/-- the table of a representing state between two bounds: what is parked is known (`dThr_le`), and a known remove is within
the clock at `a` or pending, hence parked (`θ_le`, for any bound `X` of the table's threshold: `rep_apply_add` takes `dThr`
itself, `rep_merge` the `max` of both sides').  The entry equations of those two use nothing else of the table. -/
theorem Rep.dThr_le {K : List (Op M A)} {s : Orswot M A} (h : Rep K s) (m : M) (a : A) :
    dThr s.deferred m a ≤ θ K m a := by
  refine (dThr_le_iff _ m a _).mpr fun c hc => ?_
  obtain ⟨_, hin, hm⟩ := ((h.dMem c m).mp hc).2
  exact le_θ hin hm a

theorem Rep.θ_le {K : List (Op M A)} {s : Orswot M A} (h : Rep K s) (m : M) (a : A) {X : Nat}
    (hX : dThr s.deferred m a ≤ X) : θ K m a ≤ max (clk K a) X := by
  by_cases hz : θ K m a ≤ clk K a
  · exact Nat.le_trans hz (Nat.le_max_left _ _)
  · have hlt : clk K a < θ K m a := Nat.lt_of_not_le hz
    obtain ⟨c, ms, hin, hm, hc⟩ := θ_attained (Nat.zero_lt_of_lt hlt)
    rewrite [← hc] at hlt ⊢
    exact Nat.le_trans ((dThr_le_iff s.deferred m a _).mp hX c ((h.dMem c m).mpr ⟨⟨a, hlt⟩, ms, hin, hm⟩))
      (Nat.le_max_right _ _)

/-- `Rep`'s constructor, table fields in view form -/
theorem Rep.of_views {K : List (Op M A)} {s : Orswot M A} (cnz : s.clock.NoZero) (clock : ∀ a, s.clock.get a = clk K a)
    (ewf : EntriesWF s.entries) (entries : ∀ m a, entryGet s.entries m a = E K m a)
    (hkey : ∀ c, DKey s.deferred c ↔ ((∃ ms, OrswotOp.rm c ms ∈ K) ∧ pending K c))
    (hmem : ∀ c m, DMem s.deferred c m ↔ (pending K c ∧ rmMembers K c m)) : Rep K s := by
  refine ⟨cnz, clock, ewf, entries, hkey, fun c S hS m => ⟨fun hm => ((hmem c m).mp ⟨S, hS, hm⟩).2, fun hm => ?_⟩⟩
  obtain ⟨T, hT, hTm⟩ := (hmem c m).mpr ⟨((hkey c).mp (dKey_of_get? hS)).2, hm⟩
  rewrite [hS] at hT; cases hT; exact hTm

/-- a state is determined by the knowledge it represents -/
theorem rep_functional {K : List (Op M A)} {s s' : Orswot M A} (h : Rep K s) (h' : Rep K s') : s = s' :=
  Orswot.ext (VClock.ext_get h.clock_nz h'.clock_nz (fun a => by rw [h.clock, h'.clock]))
    (entries_ext h.ewf h'.ewf (fun m a => by rw [h.entries, h'.entries]))
    (deferred_ext (fun k => (h.def_some k).trans (h'.def_some k).symm) (fun k m => (h.dMem k m).trans (h'.dMem k m).symm))

theorem Rep.transfer {K K' : List (Op M A)} {s : Orswot M A} (h : Rep K s) (hc : ∀ a, clk K' a = clk K a)
    (hE : ∀ m a, E K' m a = E K m a) (hr : ∀ c ms, OrswotOp.rm c ms ∈ K' ↔ OrswotOp.rm c ms ∈ K) : Rep K' s := by
  have hp : ∀ c, pending K' c ↔ pending K c := fun c => by unfold pending; simp only [hc]
  have hm : ∀ c m, rmMembers K' c m ↔ rmMembers K c m := fun c m => by unfold rmMembers; simp only [hr]
  refine ⟨h.clock_nz, fun a => by rewrite [hc a]; exact h.clock a, h.ewf,
    fun m a => by rewrite [hE m a]; exact h.entries m a, ?_, ?_⟩
  · intro c; rewrite [h.def_some c, hp c]; simp only [hr]
  · intro c S hS m; rw [h.def_mem c S hS m, hm c m]

theorem rep_congr {K K' : List (Op M A)} {s : Orswot M A} (e : ∀ o, o ∈ K ↔ o ∈ K') (h : Rep K s) : Rep K' s :=
  h.transfer (fun a => (clk_congr e a).symm) (fun m a => (E_congr e m a).symm) (fun _ _ => (e _).symm)

theorem Rep.present_iff_witness {K : List (Op M A)} {s : Orswot M A} (h : Rep K s) (m : M) :
    (s.entries.get? m).isSome = true ↔ ∃ a, 0 < E K m a := by
  simp only [present_iff_entryGet h.ewf, h.entries]

theorem Rep.entry_le_clock {K : List (Op M A)} {s : Orswot M A} (h : Rep K s) (m : M) (a : A) :
    entryGet s.entries m a ≤ s.clock.get a := by
  rewrite [h.entries, h.clock]; exact E_le_clk K m a

theorem Rep.no_pending_residue {K : List (Op M A)} {s : Orswot M A} (r : Rep K s)
    (caught_up : ∀ c ms, OrswotOp.rm c ms ∈ K → ∀ a, c.get a ≤ clk K a) : s.deferred = ∅ := by
  refine FMap.ext fun c => Option.not_isSome_iff_eq_none.mp fun hs => ?_
  obtain ⟨⟨ms, hin⟩, a, ha⟩ := (r.def_some c).mp hs
  exact Nat.not_lt.mpr (caught_up c ms hin a) ha

theorem Rep.no_empty_entry {K : List (Op M A)} {s : Orswot M A} (r : Rep K s) {m : M} {mc : VClock A}
    (hg : s.entries.get? m = some mc) : mc.isEmpty = false ∧ mc.NoZero ∧ ∀ a, mc.get a = E K m a :=
  ⟨(r.ewf m mc hg).2, (r.ewf m mc hg).1, fun a => (entryGet_of_some hg a).symm.trans (r.entries m a)⟩

theorem stateWF_of_rep {U K : List (Op M A)} {s : Orswot M A} (wf : LogWF U) (inv : Inv U K) (r : Rep K s) :
    StateWF s := by
  refine ⟨r.clock_nz, r.ewf, fun k hk => ?_⟩
  obtain ⟨⟨ms, hin⟩, a, ha⟩ := (r.def_some k).mp hk
  exact ⟨wf.rm_nz k ms (inv.sub _ hin), Bool.eq_false_iff.mpr fun he => Nat.not_lt_zero _ (VClock.get_of_isEmpty he a ▸ ha)⟩

end OrswotSpec
end Crdt
