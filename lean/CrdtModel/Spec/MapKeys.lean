import CrdtModel.Proofs.MapSim
import CrdtModel.Spec.OrswotSys
set_option linter.unusedSectionVars false -- a few lemmas do not use the `[LinOrd _]` binders they get from the `variable` lines
/-! Execution model for `Map` and the key-level representation theorem: in every derivable Map state – for EVERY value
type and nesting depth – the triple (clock, entry clocks, deferred) is the Orswot-of-keys state determined by the
key-level reading of the knowledge set. -/
namespace Crdt

namespace CMap
variable {K V VOp A : Type} [LinOrd K] [LinOrd A]

def keyLog (U : List (MapOp K VOp A)) : List (OrswotOp K A) := U.map keyOp

theorem mem_keyLog_add {L : List (MapOp K VOp A)} {d : Dot A} {ms : List K} :
    OrswotOp.add d ms ∈ keyLog L ↔ ∃ k o, ms = [k] ∧ MapOp.up d k o ∈ L := by
  simp only [keyLog, List.mem_map]
  constructor
  · rintro ⟨_ | ⟨d', k', o⟩, hin, ⟨⟩⟩; exact ⟨k', o, rfl, hin⟩
  · rintro ⟨k, o, rfl, hin⟩; exact ⟨_, hin, rfl⟩

theorem mem_keyLog_rm {L : List (MapOp K VOp A)} {c : VClock A} {ks : List K} :
    OrswotOp.rm c ks ∈ keyLog L ↔ MapOp.rm c ks ∈ L := by
  simp only [keyLog, List.mem_map]
  constructor
  · rintro ⟨_ | _, hin, ⟨⟩⟩; exact hin
  · intro hin; exact ⟨_, hin, rfl⟩

theorem mem_keyLog_congr {L L' : List (MapOp K VOp A)} (e : ∀ x, x ∈ L ↔ x ∈ L') (o : OrswotOp K A) :
    o ∈ keyLog L ↔ o ∈ keyLog L' := by
  simp only [keyLog, List.mem_map, e]

theorem keyLog_append (L L' : List (MapOp K VOp A)) : keyLog (L ++ L') = keyLog L ++ keyLog L' := List.map_append

theorem up_mem_keyLog {L : List (MapOp K VOp A)} {d : Dot A} {k : K} {o : VOp} (h : MapOp.up d k o ∈ L) :
    OrswotOp.add d [k] ∈ keyLog L := mem_keyLog_add.mpr ⟨k, o, rfl, h⟩

/-- derivable Map states (same shape as `RepSys.Reach`): discipline = each actor's UPDATES in issue order; key removes
unordered (`Ok … (keyOp (.rm c ks))` is `True`); duplicates; merges of live or stale states.
Not a `RepSys` instance: a Map state also carries the nested values, of which `OrswotSpec.Rep` says nothing; only `keysView`
is represented (`keys_rep`).  The theorems assume `LogWF (keyLog U)`: a dot names one key, key-remove contexts store no zero.
The index `L` is a list with duplicates (`merge` appends), but only membership in `L` is ever used. -/
inductive Reach (ops : ValOps V VOp A) (U : List (MapOp K VOp A)) : CMap K V A → List (MapOp K VOp A) → Prop
  | init : Reach ops U CMap.init []
  | apply {s L op} : Reach ops U s L → op ∈ U → OrswotSpec.Ok (keyLog U) (keyLog L) (keyOp op) →
      Reach ops U (CMap.apply ops s op) (op :: L)
  | merge {s L s' L'} : Reach ops U s L → Reach ops U s' L' → Reach ops U (CMap.merge ops s s') (L ++ L')

theorem Reach.sub {ops : ValOps V VOp A} {U L : List (MapOp K VOp A)} {s : CMap K V A} (h : Reach ops U s L) :
    ∀ x ∈ L, x ∈ U := by
  induction h with
  | init => intro x hx; cases hx
  | apply _ hu _ ih => exact fun x hx => (List.mem_cons.mp hx).elim (fun e => e ▸ hu) (ih x)
  | merge _ _ ih1 ih2 => exact fun x hx => (List.mem_append.mp hx).elim (ih1 x) (ih2 x)

theorem deferred_nz {U : List (MapOp K VOp A)} {L : List (OrswotOp K A)} {s : CMap K V A}
    (wf : OrswotSpec.LogWF (keyLog U)) (inv : OrswotSpec.Inv (keyLog U) L) (r : OrswotSpec.Rep L s.keysView) :
    ∀ p ∈ s.deferred.l, p.1.NoZero := by
  intro p hp
  have hg : s.keysView.deferred.get? p.1 = some p.2 := FMap.mem_l_iff.mp hp
  obtain ⟨⟨ms, hin⟩, _⟩ := (r.def_some p.1).mp (by rewrite [hg]; rfl)
  exact wf.rm_nz p.1 ms (inv.sub _ hin)

/-- **Key-level representation theorem**: the `keysView` of a derivable Map state is the Orswot state that `OrswotSpec.Rep`
assigns to its key-level log. -/
theorem keys_rep {ops : ValOps V VOp A} {U L : List (MapOp K VOp A)} {s : CMap K V A}
    (wf : OrswotSpec.LogWF (keyLog U)) (h : Reach ops U s L) :
    OrswotSpec.Inv (keyLog U) (keyLog L) ∧ OrswotSpec.Rep (keyLog L) s.keysView := by
  induction h with
  | init =>
    exact ⟨orswotSys.inv_nil, OrswotSpec.rep_init⟩
  | @apply s L op _ hu hok ih =>
    have hu' : keyOp op ∈ keyLog U := List.mem_map_of_mem hu
    have hsim := apply_sim ops s op ih.2.clock_nz (deferred_nz wf ih.1 ih.2)
      (fun c ks e => by subst e; exact wf.rm_nz c ks hu')
    refine ⟨OrswotSpec.inv_cons wf ih.1 hu' hok, ?_⟩
    rewrite [hsim]
    exact OrswotSpec.rep_apply wf ih.1 ih.2 hu' hok
  | @merge s L s' L' _ _ ih1 ih2 =>
    have hsim := merge_sim ops s s' ih1.2.clock_nz (deferred_nz wf ih1.1 ih1.2) (deferred_nz wf ih2.1 ih2.2)
    rewrite [keyLog_append, hsim]
    exact ⟨OrswotSpec.inv_append ih1.1 ih2.1, OrswotSpec.rep_merge wf ih1.1 ih2.1 ih1.2 ih2.2⟩

section reach
variable {ops : ValOps V VOp A} {U L : List (MapOp K VOp A)} {s : CMap K V A}
  (wf : OrswotSpec.LogWF (keyLog U)) (h : Reach ops U s L)
include wf h

theorem Reach.clock (a : A) : s.clock.get a = OrswotSpec.clk (keyLog L) a := (keys_rep wf h).2.clock a

/-- The dedup gate of `Map::apply` fires only on re-delivered dots (and on counter-0 dots): the clock is the per-actor
newest known update, and the knowledge is add-closed.  The delivered nested op `o'` need not be `o`: key-level `LogWF` fixes the
key of a dot, not its nested op (`DotsUnique` does: `ReachC.gate_mem`). -/
theorem Reach.known_of_gate {d : Dot A} {k : K} {o : VOp} (hu : MapOp.up d k o ∈ U)
    (hp : 0 < d.counter) (g : s.clock.get d.actor ≥ d.counter) : ∃ o', MapOp.up d k o' ∈ L := by
  rewrite [h.clock wf] at g
  obtain ⟨k', o', e, hin⟩ := mem_keyLog_add.mp (OrswotSpec.add_mem_of_le_clk wf (keys_rep wf h).1 (up_mem_keyLog hu) hp g)
  cases e; exact ⟨o', hin⟩

theorem Reach.gate_iff {d : Dot A} {k : K} {o : VOp} (hu : MapOp.up d k o ∈ U) :
    s.clock.get d.actor ≥ d.counter ↔ d.counter = 0 ∨ ∃ k' o', MapOp.up d k' o' ∈ L := by
  constructor
  · intro g
    rcases Nat.eq_zero_or_pos d.counter with hz | hp
    · exact Or.inl hz
    · exact Or.inr ⟨k, h.known_of_gate wf hu hp g⟩
  · rintro (hz | ⟨k', o', hin⟩)
    · exact hz ▸ Nat.zero_le _
    · rewrite [h.clock wf]; exact OrswotSpec.le_clk (up_mem_keyLog hin)

theorem keys_converge {L' : List (MapOp K VOp A)} {s' : CMap K V A} (h' : Reach ops U s' L')
    (e : ∀ o, o ∈ keyLog L ↔ o ∈ keyLog L') : s.keysView = s'.keysView :=
  OrswotSpec.rep_functional (OrswotSpec.rep_congr e (keys_rep wf h).2) (keys_rep wf h').2

end reach

end CMap
end Crdt
