import CrdtModel.Proofs.OrswotMerge
import CrdtModel.Spec.RepSys
set_option linter.unusedSectionVars false
/-! The Orswot representation system: discipline = per-actor order on adds only (removes unordered).  The Props files
use it through `RepSys.reach_rep wf h : Inv U K ∧ Rep K s` (`.1`, `.2`) for `h : orswotSys.Reach U s K`. -/
namespace Crdt
namespace OrswotSpec
variable {M A : Type} [LinOrd M] [LinOrd A]
open Orswot

theorem rep_init : Rep ([] : List (Op M A)) Orswot.init := by
  refine ⟨VClock.noZero_empty, fun a => rfl, entriesWF_empty, fun m a => ?_, fun c => ?_, fun c S hS => ?_⟩
  · exact entryGet_empty m a
  · simp [Orswot.init]
  · simp [Orswot.init] at hS

/-- the one place where the per-actor order on adds (`ok`) is used.  `wf` is not: the field `RepSys.inv_cons` passes it. -/
theorem inv_cons {U K : List (Op M A)} {op : Op M A} (wf : LogWF U) (inv : Inv U K) (hu : op ∈ U) (ok : Ok U K op) :
    Inv U (op :: K) := by
  refine ⟨fun o ho => ?_, fun d ms hin d' ms' hu' ha hlt => List.mem_cons_of_mem _ ?_⟩
  · rcases List.mem_cons.mp ho with rfl | e
    · exact hu
    · exact inv.sub o e
  · -- the earlier add `d'` is wanted by the new op (then `ok` has it) or by an add of `K` (then `K` is add-closed)
    rcases List.mem_cons.mp hin with rfl | e
    · exact ok d' ms' hu' ha hlt
    · exact inv.closed d ms e d' ms' hu' ha hlt

theorem inv_append {U K K' : List (Op M A)} (inv : Inv U K) (inv' : Inv U K') : Inv U (K ++ K') :=
  ⟨fun o ho => (List.mem_append.mp ho).elim (inv.sub o) (inv'.sub o),
   fun d ms hin d' ms' hu' ha hlt => (List.mem_append.mp hin).elim
    (fun e => List.mem_append_left _ (inv.closed d ms e d' ms' hu' ha hlt))
    (fun e => List.mem_append_right _ (inv'.closed d ms e d' ms' hu' ha hlt))⟩

theorem inv_congr {U K K' : List (Op M A)} (e : ∀ o, o ∈ K ↔ o ∈ K') (inv : Inv U K) : Inv U K' :=
  ⟨fun o ho => inv.sub o ((e o).mpr ho),
   fun d ms hin d' ms' hu' ha hlt => (e _).mp (inv.closed d ms ((e _).mpr hin) d' ms' hu' ha hlt)⟩

theorem ok_of_mem {U K : List (Op M A)} {op : Op M A} (inv : Inv U K) (hk : op ∈ K) : Ok U K op := by
  cases op with
  | add d ms => exact inv.closed d ms hk
  | rm c ms => trivial

theorem rep_apply {U K : List (Op M A)} {s : Orswot M A} {op : Op M A} (wf : LogWF U) (inv : Inv U K) (h : Rep K s)
    (hu : op ∈ U) (ok : Ok U K op) : Rep (op :: K) (Orswot.apply s op) := by
  cases op with
  | add d ms => exact rep_apply_add wf inv h hu ok
  | rm c ms => exact rep_apply_rm h c (wf.rm_nz c ms hu) ms

end OrswotSpec

def orswotSys {M A : Type} [LinOrd M] [LinOrd A] : RepSys (Orswot M A) (OrswotOp M A) where
  init := Orswot.init
  apply := Orswot.apply
  merge := Orswot.merge
  WF := OrswotSpec.LogWF
  Ok := OrswotSpec.Ok
  Inv := OrswotSpec.Inv
  Rep := fun _ K s => OrswotSpec.Rep K s
  inv_nil := OrswotSpec.Inv.mk (fun _ h => by cases h) (fun _ _ h => by cases h)
  inv_cons := OrswotSpec.inv_cons
  inv_append := OrswotSpec.inv_append
  inv_congr := OrswotSpec.inv_congr
  ok_of_mem := fun _ inv hk => OrswotSpec.ok_of_mem inv hk
  rep_init := OrswotSpec.rep_init
  rep_apply := OrswotSpec.rep_apply
  rep_merge := OrswotSpec.rep_merge
  rep_congr := OrswotSpec.rep_congr
  rep_functional := fun _ _ h h' => OrswotSpec.rep_functional h h'

end Crdt
