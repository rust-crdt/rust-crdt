import CrdtModel.Spec.OrswotSys
/-!
# A system-level execution model for Orswot: ops are only ever GENERATED THROUGH THE API

The Orswot theorems have the shape `LogWF U → orswotSys.Reach U s K → …`: the universe `U` of ops and its well-formedness
are hypotheses.  Here no universe is given in advance: a configuration holds one replica per actor ("each actor confined
to one replica"), and the only way an op comes into existence is a step that mirrors the README's use of the API

    read (`read` / `read_ctx` / `contains`)  →  derive a context  →  build the op (`add`/`add_all`/`rm`/`rm_all`)  →  apply it locally

at the CURRENT state of the issuing replica.  Proofs/SysOrswot.lean proves both hypotheses for every reachable
configuration, so each of those theorems applies to every execution (Props/SysOrswot.lean).

Not modelled: an add built from a context that was read earlier than the state it is applied to (`rmStale` has no
counterpart for adds: a stale add context would reuse a dot); an op that is first applied at a replica other than its
author's; two actors sharing one replica.  A `deliver` of the author's own op is a duplicate.
-/
namespace Crdt.Sys

/-- pointwise update of an actor-indexed family (`DecidableEq A` comes from `LinOrd A`) -/
def upd {A β : Type} [LinOrd A] (f : A → β) (i : A) (v : β) : A → β := fun j => if j = i then v else f j

@[simp] theorem upd_same {A β : Type} [LinOrd A] (f : A → β) (i : A) (v : β) : upd f i v i = v := by simp [upd]
theorem upd_other {A β : Type} [LinOrd A] (f : A → β) {i j : A} (v : β) (h : j ≠ i) : upd f i v j = f j := by simp [upd, h]
theorem upd_self {A β : Type} [LinOrd A] (f : A → β) (i : A) : upd f i (f i) = f :=
  funext fun _ => ite_eq_right_iff.mpr fun h => h ▸ rfl

variable {M A : Type} [LinOrd M] [LinOrd A]

structure Cfg (M A : Type) [LinOrd M] [LinOrd A] where
  /-- current state of actor `i`'s replica -/
  rep : A → Orswot M A
  /-- ops delivered to / generated at it (newest first; duplicates are kept) -/
  know : A → List (OrswotOp M A)
  /-- every op generated so far (newest first) -/
  log : List (OrswotOp M A)
  /-- saved states (backups, old snapshots, states in flight to a peer) with their knowledge -/
  snaps : List (Orswot M A × List (OrswotOp M A))

namespace Cfg

def init : Cfg M A := ⟨fun _ => Orswot.init, fun _ => [], [], []⟩

/-- `op` has just been built at replica `i`: it is applied there at once, remembered, and enters the log -/
def gen (c : Cfg M A) (i : A) (op : OrswotOp M A) : Cfg M A :=
  { c with rep := upd c.rep i ((c.rep i).apply op), know := upd c.know i (op :: c.know i), log := op :: c.log }

def deliver (c : Cfg M A) (i : A) (op : OrswotOp M A) : Cfg M A :=
  { c with rep := upd c.rep i ((c.rep i).apply op), know := upd c.know i (op :: c.know i) }

def mergeIn (c : Cfg M A) (i : A) (s : Orswot M A) (K : List (OrswotOp M A)) : Cfg M A :=
  { c with rep := upd c.rep i ((c.rep i).merge s), know := upd c.know i (c.know i ++ K) }

def snapshot (c : Cfg M A) (i : A) : Cfg M A := { c with snaps := (c.rep i, c.know i) :: c.snaps }

inductive View (c : Cfg M A) : Orswot M A → List (OrswotOp M A) → Prop
  | rep (i : A) : View c (c.rep i) (c.know i)
  | snap {p : Orswot M A × List (OrswotOp M A)} : p ∈ c.snaps → View c p.1 p.2

end Cfg

/-- one step of the system.  Ops are created by the first group only, each constructor being one README usage
pattern evaluated at the issuing replica's CURRENT state; everything else moves existing ops / states around. -/
inductive Step : Cfg M A → Cfg M A → Prop
  /-- `let op = s.add(m, s.read().derive_add_ctx(i)); s.apply(op)` -/
  | add (c : Cfg M A) (i : A) (m : M) : Step c (c.gen i (Orswot.add m ((c.rep i).read.deriveAddCtx i)))
  /-- the same with `read_ctx()` -/
  | addCtx (c : Cfg M A) (i : A) (m : M) : Step c (c.gen i (Orswot.add m ((c.rep i).readCtx.deriveAddCtx i)))
  /-- the same with the context of `contains(m')` (any member) -/
  | addContains (c : Cfg M A) (i : A) (m m' : M) :
      Step c (c.gen i (Orswot.add m (((c.rep i).contains m').deriveAddCtx i)))
  /-- `add_all` -/
  | addAll (c : Cfg M A) (i : A) (ms : List M) : Step c (c.gen i (Orswot.addAll ms ((c.rep i).read.deriveAddCtx i)))
  /-- `let op = s.rm(m, s.contains(&m).derive_rm_ctx()); s.apply(op)` -/
  | rm (c : Cfg M A) (i : A) (m : M) : Step c (c.gen i (Orswot.rm m ((c.rep i).contains m).deriveRmCtx))
  /-- remove one member with the whole-set context (`read()` / `read_ctx()`) -/
  | rmRead (c : Cfg M A) (i : A) (m : M) : Step c (c.gen i (Orswot.rm m (c.rep i).read.deriveRmCtx))
  /-- `rm_all` with the whole-set context -/
  | rmAll (c : Cfg M A) (i : A) (ms : List M) : Step c (c.gen i (Orswot.rmAll ms (c.rep i).read.deriveRmCtx))
  /-- `rm_all` with the `read_ctx()` context -/
  | rmAllCtx (c : Cfg M A) (i : A) (ms : List M) : Step c (c.gen i (Orswot.rmAll ms (c.rep i).readCtx.deriveRmCtx))
  /-- a remove whose context was read EARLIER (from a saved state); removes tolerate stale contexts, adds do not -/
  | rmStale (c : Cfg M A) (i : A) (m : M) (p : Orswot M A × List (OrswotOp M A)) :
      p ∈ c.snaps → Step c (c.gen i (Orswot.rm m (p.1.contains m).deriveRmCtx))
  /-- an op of the log is delivered to `i` (again, possibly); adds of each actor in issue order, removes any time -/
  | deliver (c : Cfg M A) (i : A) (op : OrswotOp M A) :
      op ∈ c.log → OrswotSpec.Ok c.log (c.know i) op → Step c (c.deliver i op)
  /-- state-based sync: `i` merges `j`'s current state -/
  | merge (c : Cfg M A) (i j : A) : Step c (c.mergeIn i (c.rep j) (c.know j))
  /-- `i` saves its state (backup / state message in flight) -/
  | snapshot (c : Cfg M A) (i : A) : Step c (c.snapshot i)
  /-- `i` merges the `n`-th saved state (restores a backup, receives an old state message) -/
  | mergeSnap (c : Cfg M A) (i : A) (n : Nat) (p : Orswot M A × List (OrswotOp M A)) :
      c.snaps[n]? = some p → Step c (c.mergeIn i p.1 p.2)

inductive Run : Cfg M A → Prop
  | init : Run Cfg.init
  | step {c c' : Cfg M A} : Run c → Step c c' → Run c'

inductive Steps : Cfg M A → Cfg M A → Prop
  | refl (c : Cfg M A) : Steps c c
  | step {c c' c'' : Cfg M A} : Steps c c' → Step c' c'' → Steps c c''

end Crdt.Sys
