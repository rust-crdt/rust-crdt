import CrdtModel.Spec.ListRep
import CrdtModel.Spec.OpRepSys
/-! `List` as a merge-free representation system, and the representation relation in closed form: the state is
*equal* to the executable specification `specState K` (`eq_specState`; what the driver prints as the oracle).  The Boolean
checks of `Spec/List.lean` that the driver runs (`wfB`, `predsInB`, `targetInB`, `okB`) decide `LogWF`, `PredsIn`,
`TargetIn`, `Ok`. -/
namespace Crdt

/-- `List` (src/list.rs, `CmRDT` only) as a representation system; discipline = per-actor order + delete after insert.
`apply` is the totalised `ListCrdt.apply` (the state is kept where the crate panics); on ops of a well-formed log it is
the crate's `apply` (`C12.apply_defined`).  `rep_apply` drops the delivered op's own `Ok`: see `ListSpec.rep_apply`. -/
def listSys {τ A : Type} [LinOrd A] : OpRepSys (ListCrdt τ A) (ListOp τ A) where
  init := ListCrdt.new
  apply := ListCrdt.apply
  WF := ListSpec.LogWF
  Ok := ListSpec.Ok
  Inv := ListSpec.Inv
  Rep := fun _ K s => ListSpec.Rep K s
  inv_nil := ListSpec.inv_nil
  inv_cons := fun _ inv hu ok => ListSpec.inv_cons inv hu ok
  inv_congr := ListSpec.inv_congr
  ok_of_mem := fun _ inv hk => inv.closed _ hk
  rep_init := ListSpec.rep_init
  rep_apply := fun wf inv h hu _ => ListSpec.rep_apply wf inv h hu
  rep_congr := ListSpec.rep_congr
  rep_functional := fun _ _ h h' => ListSpec.rep_functional h h'

namespace ListSpec
variable {τ A : Type} [LinOrd A]

theorem deletedB_iff (K : List (Op τ A)) (id : Id A) : deletedB K id = true ↔ Deleted K id := by
  rewrite [deletedB, List.any_eq_true]
  constructor
  · rintro ⟨o, ho, h⟩
    cases o with
    | insert i v => simp at h
    | delete i d => simp at h; subst h; exact ⟨d, ho⟩
  · rintro ⟨d, hd⟩
    exact ⟨_, hd, by simp⟩

theorem get?_specSeqAux (K : List (Op τ A)) {L : List (Op τ A)}
    (uq : ∀ id v v', ListOp.insert id v ∈ L → ListOp.insert id v' ∈ L → v = v') (id : Id A) (v : τ) :
    (specSeqAux K L).get? id = some v ↔ (ListOp.insert id v ∈ L ∧ ¬ Deleted K id) := by
  induction L generalizing id v with
  | nil => exact iff_of_false (fun h => by cases h) fun h => List.not_mem_nil h.1
  | cons o t ih =>
    have ih := ih fun id v v' h h' => uq id v v' (List.mem_cons_of_mem _ h) (List.mem_cons_of_mem _ h')
    -- a head that adds nothing to the map is not the insert asked for
    have tl (ne : ¬ Deleted K id → ListOp.insert id v ≠ o) := (ih id v).trans
      (and_congr_left fun nd => ⟨List.mem_cons_of_mem _, fun h => (List.mem_cons.mp h).resolve_left (ne nd)⟩)
    cases o with
    | delete i d => exact tl fun _ => nofun
    | insert i w =>
      unfold specSeqAux
      split
      · next del => exact tl fun nd e => by cases e; exact nd ((deletedB_iff K _).mp del)
      · next del =>
        exact get?_insert_live ih (fun v h => uq i v w (List.mem_cons_of_mem _ h) List.mem_cons_self)
          (mt (deletedB_iff K _).mpr del) id v

theorem get?_specSeq {K : List (Op τ A)}
    (uq : ∀ id v v', ListOp.insert id v ∈ K → ListOp.insert id v' ∈ K → v = v') (id : Id A) (v : τ) :
    (specSeq K).get? id = some v ↔ Live K id v := get?_specSeqAux K uq id v

theorem get_foldl_apply_dots (K : List (Op τ A)) (c : VClock A) (a : A) :
    ((K.filterMap ListOp.dot).foldl VClock.apply c).get a = max (c.get a) (clk K a) := by
  induction K generalizing c with
  | nil => exact (Nat.max_zero _).symm
  | cons o t ih =>
    rewrite [clk_cons]
    cases hd : o.dot with
    | none => rw [List.filterMap_cons_none hd, ih, ctr, hd, Nat.zero_max]
    | some d => rw [List.filterMap_cons_some hd, List.foldl_cons, ih, get_apply_ctr c hd, Nat.max_assoc]

theorem get_specClock (K : List (Op τ A)) (a : A) : (specClock K).get a = clk K a := by
  rw [specClock, VClock.fromIter, get_foldl_apply_dots, VClock.get_empty, Nat.zero_max]

theorem rep_specState {K : List (Op τ A)}
    (uq : ∀ id v v', ListOp.insert id v ∈ K → ListOp.insert id v' ∈ K → v = v') : Rep K (specState K) :=
  ⟨VClock.noZero_fromIter _, get_specClock K, get?_specSeq uq⟩

theorem eq_specState {U K : List (Op τ A)} {s : ListCrdt τ A} (wf : LogWF U) (sub : ∀ o ∈ K, o ∈ U) (h : Rep K s) :
    s = specState K :=
  rep_functional h (rep_specState fun _ _ _ h1 h2 => insert_same_id wf (sub _ h1) (sub _ h2))

theorem wfB_iff [DecidableEq τ] (U : List (Op τ A)) : wfB U = true ↔ LogWF U := by
  simp only [wfB, Bool.and_eq_true, List.all_eq_true, decide_eq_true_eq]
  constructor
  · rintro ⟨h1, h2⟩
    refine ⟨fun op hop => ?_, fun op hop op' hop' => h2 op hop op' hop'⟩
    have := h1 op hop
    cases hd : op.dot with
    | none => simp [hd] at this
    | some d => simp only [hd, decide_eq_true_eq] at this; exact ⟨d, rfl, this⟩
  · intro wf
    refine ⟨fun op hop => ?_, fun op hop op' hop' => wf.dot_unique op hop op' hop'⟩
    obtain ⟨d, hd, hp⟩ := wf.dot_pos op hop
    simp [hd, hp]

theorem predsInB_iff [DecidableEq τ] (U K : List (Op τ A)) (op : Op τ A) : predsInB U K op = true ↔ PredsIn U K op := by
  unfold predsInB PredsIn
  cases hd : op.dot with
  | none => exact iff_of_true rfl fun _ _ _ _ h => nomatch h
  | some d =>
    rewrite [List.all_eq_true]
    constructor
    · intro h o ho d1 d' e1 e2 ha hc
      cases e1
      have := h o ho
      simp only [e2, decide_eq_true_eq] at this
      exact this ha hc
    · intro h o ho
      cases e2 : o.dot with
      | none => rfl
      | some d' => simp only [decide_eq_true_eq]; exact fun ha hc => h o ho d d' rfl e2 ha hc

theorem targetInB_iff (K : List (Op τ A)) (op : Op τ A) : targetInB K op = true ↔ TargetIn K op := by
  cases op with
  | insert id v => exact iff_of_true rfl trivial
  | delete id d =>
    show K.any _ = true ↔ ∃ v, ListOp.insert id v ∈ K
    rewrite [List.any_eq_true]
    constructor
    · rintro ⟨o, ho, h⟩
      cases o with
      | insert i v => simp at h; subst h; exact ⟨v, ho⟩
      | delete i d => simp at h
    · rintro ⟨v, hv⟩
      exact ⟨_, hv, by simp⟩

theorem okB_iff [DecidableEq τ] (U K : List (Op τ A)) (op : Op τ A) : okB U K op = true ↔ Ok U K op := by
  simp only [okB, Bool.and_eq_true, predsInB_iff, targetInB_iff, Ok]

end ListSpec
end Crdt
