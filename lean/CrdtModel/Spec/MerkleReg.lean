import CrdtModel.Model.MerkleReg
import CrdtModel.Spec.RepSys
/-!
# Specification of `MerkleReg`: the state is a function of the set of nodes received

`K` is the list of nodes a replica has received (any order, duplicates allowed).

* `VisH K h` – "`h` is the hash of a *visible* node": the least set of hashes closed under
  "`n ∈ K` and every child hash of `n` is in the set ⇒ `hash n` is in the set";
* `Visible K n` – `n` has been received and all its children hashes are hashes of visible nodes
  (so: `n` and all its ancestors have been received);
* `Head K n` – `n` is visible and no visible node lists `hash n` as a child;
* `MRep K s` – the representation relation: `dag` = the visible nodes, `orphans` = the received nodes that are
  not visible, `roots` = the hashes of the heads.

`visibleList`, `headList`, `orphanList` are the executable versions (fixpoint iteration), proved equivalent in
`Proofs/MerkleReg.lean` (`mem_visibleList`) and `Props/C15.lean` (`headList_spec`, `orphanList_spec`); the driver prints them as specification fields.  This file: definitions only.
-/
namespace Crdt
namespace MerkleSpec
open LinOrd
variable {H : Type} [LinOrd H] {τ : Type} (hash : Node H τ → H)

/-- hashes of visible nodes: least fixed point -/
inductive VisH (K : List (Node H τ)) : H → Prop
  | mk {n : Node H τ} : n ∈ K → (∀ c, n.children.contains c = true → VisH K c) → VisH K (hash n)

/-- received, and every child hash is the hash of a visible node -/
def Visible (K : List (Node H τ)) (n : Node H τ) : Prop :=
  n ∈ K ∧ ∀ c, n.children.contains c = true → VisH hash K c

/-- DAG head: visible, and no visible node has it as a child -/
def Head (K : List (Node H τ)) (n : Node H τ) : Prop :=
  Visible hash K n ∧ ∀ m, Visible hash K m → m.children.contains (hash n) = false

/-- representation relation (pointwise form of: dag = visible nodes, orphans = the rest, roots = heads) -/
structure MRep (K : List (Node H τ)) (s : MerkleReg H τ) : Prop where
  dag : ∀ h n, s.dag.get? h = some n ↔ (hash n = h ∧ Visible hash K n)
  orphans : ∀ h n, s.orphans.get? h = some n ↔ (hash n = h ∧ n ∈ K ∧ ¬ Visible hash K n)
  roots : ∀ h, s.roots.contains h = true ↔ ∃ n, hash n = h ∧ Head hash K n

/-! ### executable version -/

/-- all children hashes of `n` are hashes of members of `V` -/
def kidsIn (V : List (Node H τ)) (n : Node H τ) : Bool :=
  n.children.l.all (fun c => V.any (fun m => decide (hash m = c.1)))

def visStep (K V : List (Node H τ)) : List (Node H τ) := K.filter (kidsIn hash V)

def visIter (K : List (Node H τ)) : Nat → List (Node H τ)
  | 0 => []
  | i + 1 => visStep hash K (visIter K i)

/-- the visible nodes of `K` (in the order of `K`): `|K|` rounds of "add the nodes whose children are all in" -/
def visibleList (K : List (Node H τ)) : List (Node H τ) := visIter hash K K.length

def headList (K : List (Node H τ)) : List (Node H τ) :=
  let V := visibleList hash K
  V.filter (fun n => V.all (fun m => !m.children.contains (hash n)))

def orphanList (K : List (Node H τ)) : List (Node H τ) :=
  K.filter (fun n => !kidsIn hash (visibleList hash K) n)

end MerkleSpec
end Crdt
