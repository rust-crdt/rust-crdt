import CrdtModel.Proofs.MVReg
import CrdtModel.Spec.RepSysEquiv
import CrdtModel.Spec.MVRegSpec
/-! Representation system for `MVReg`: a replica that has learned the puts `K` (in ANY order, with duplicates,
through ops or merges) holds exactly the causally-maximal puts of `K`, each once.
Delivery discipline: none (`Ok := True`).  State equality: up to permutation of the `Vec` (`RepSysE`).
The one fact about the order: every known put lies below a maximal one, so being dominated by `K` is being dominated by
a stored entry (`not_dominated_iff_vals`).  With it `MVRep.apply` and `MVRep.merge` are both `maximal_append` (a delivered
put is the one-put log `[op]` joined in: `maximal_singleton`) read against the list-level `MVReg.mem_apply` / `MVReg.mem_merge`. -/
namespace Crdt

theorem exists_unbeaten_above {β : Type} (r : β → β → Prop) (irr : ∀ x, ¬ r x x) (tr : ∀ {x y z}, r x y → r y z → r x z)
    (K : List β) (x : β) : ∃ m, (m = x ∨ m ∈ K ∧ r x m) ∧ ∀ z ∈ K, ¬ r m z := by
  induction K with
  | nil => exact ⟨x, Or.inl rfl, List.forall_mem_nil _⟩
  | cons y K ih =>
    obtain ⟨m, hxm, hmax⟩ := ih
    by_cases hmy : r m y
    · -- `y` beats the champion of the tail, so nothing in the tail beats `y`
      exact ⟨y, Or.inr ⟨List.mem_cons_self, hxm.elim (· ▸ hmy) fun h => tr h.2 hmy⟩,
        List.forall_mem_cons.mpr ⟨irr y, fun z hz h => hmax z hz (tr hmy h)⟩⟩
    · exact ⟨m, hxm.imp_right fun h => ⟨List.mem_cons_of_mem _ h.1, h.2⟩, List.forall_mem_cons.mpr ⟨hmy, hmax⟩⟩

section mvreg
variable {ν α : Type} [LinOrd α]

/-- well-formedness of a log of puts: no clock stores a zero counter, and distinct puts carry distinct clocks
(what writing through `read_ctx().derive_add_ctx(actor)` guarantees when every actor writes at one replica –
`C06.genLog_wf`). Empty clocks are allowed (such a put is a no-op). -/
def MVWF (U : List (MVOp ν α)) : Prop :=
  (∀ o ∈ U, o.clock.NoZero) ∧ (∀ o ∈ U, ∀ o' ∈ U, o.clock = o'.clock → o.val = o'.val)

theorem MVWF.cons {U : List (MVOp ν α)} {op : MVOp ν α} (wf : MVWF U) (nz : op.clock.NoZero)
    (fresh : ∀ o ∈ U, o.clock ≠ op.clock) : MVWF (op :: U) := by
  refine ⟨List.forall_mem_cons.mpr ⟨nz, wf.1⟩, fun o ho o' ho' ec => ?_⟩
  rcases List.mem_cons.mp ho with e | ho <;> rcases List.mem_cons.mp ho' with e' | ho'
  · rw [e, e']
  · exact absurd (e ▸ ec).symm (fresh o' ho')
  · exact absurd (e' ▸ ec) (fresh o ho)
  · exact wf.2 o ho o' ho' ec

/-- some known put has a strictly greater clock -/
def Dominated (K : List (MVOp ν α)) (c : VClock α) : Prop := ∃ o ∈ K, c.slt o.clock

/-- `put c v` is a causally-maximal known put (with a non-empty clock) -/
def Maximal (K : List (MVOp ν α)) (c : VClock α) (v : ν) : Prop :=
  (⟨c, v⟩ : MVOp ν α) ∈ K ∧ c.isEmpty = false ∧ ¬ Dominated K c

/-- the register holds exactly the maximal known puts, each once -/
def MVRep (K : List (MVOp ν α)) (s : MVReg ν α) : Prop :=
  s.vals.Nodup ∧ ∀ c v, (c, v) ∈ s.vals ↔ Maximal K c v

theorem Maximal.congr {K K' : List (MVOp ν α)} (e : ∀ o, o ∈ K ↔ o ∈ K') {c : VClock α} {v : ν} :
    Maximal K c v ↔ Maximal K' c v := by
  simp only [Maximal, Dominated, e]

theorem exists_maximal_above (K : List (MVOp ν α)) {o : MVOp ν α} (ho : o ∈ K) (hne : o.clock.isEmpty = false) :
    ∃ m : MVOp ν α, o.clock.le m.clock ∧ Maximal K m.clock m.val := by
  obtain ⟨m, hom, hmax⟩ := exists_unbeaten_above (fun a b : MVOp ν α => a.clock.slt b.clock)
    (fun x => VClock.slt_irrefl _) VClock.slt_trans K o
  have nd : ¬ Dominated K m.clock := by rintro ⟨z, hz, hl⟩; exact hmax z hz hl
  rcases hom with rfl | ⟨hm, l⟩
  · exact ⟨m, VClock.le_refl _, ho, hne, nd⟩
  · exact ⟨m, l.1, hm, VClock.nonempty_of_not_le l.2, nd⟩

theorem MVRep.known {K : List (MVOp ν α)} {s : MVReg ν α} (h : MVRep K s) {q : VClock α × ν} (hq : q ∈ s.vals) :
    (⟨q.1, q.2⟩ : MVOp ν α) ∈ K := ((h.2 q.1 q.2).mp hq).1

theorem MVRep.antichain {K : List (MVOp ν α)} {s : MVReg ν α} (h : MVRep K s) :
    ∀ p ∈ s.vals, ∀ q ∈ s.vals, ¬ p.1.slt q.1 :=
  fun p hp _ hq l => ((h.2 p.1 p.2).mp hp).2.2 ⟨_, h.known hq, l⟩

theorem MVRep.le_clock {K : List (MVOp ν α)} {s : MVReg ν α} (h : MVRep K s) {o : MVOp ν α} (ho : o ∈ K) :
    o.clock.le s.clock := by
  cases hne : o.clock.isEmpty with
  | true => exact VClock.le_of_isEmpty hne _
  | false =>
    obtain ⟨m, hom, hmax⟩ := exists_maximal_above K ho hne
    exact VClock.le_trans hom (MVReg.le_clock s (p := (m.clock, m.val)) ((h.2 _ _).mpr hmax))

theorem not_dominated_iff_vals {K : List (MVOp ν α)} {s : MVReg ν α} (h : MVRep K s) (c : VClock α) :
    ¬ Dominated K c ↔ ∀ q ∈ s.vals, ¬ c.slt q.1 := by
  constructor
  · exact fun nd q hq l => nd ⟨_, h.known hq, l⟩
  · rintro hs ⟨o, ho, l⟩
    obtain ⟨m, hom, hmax⟩ := exists_maximal_above K ho (VClock.nonempty_of_not_le l.2)
    exact hs (m.clock, m.val) ((h.2 _ _).mpr hmax) (VClock.slt_of_slt_of_le l hom)

theorem dominated_singleton (op : MVOp ν α) (c : VClock α) : Dominated [op] c ↔ c.slt op.clock := by
  simp only [Dominated, List.mem_singleton, exists_eq_left]

theorem dominated_append (K K' : List (MVOp ν α)) (c : VClock α) :
    Dominated (K ++ K') c ↔ Dominated K c ∨ Dominated K' c := by
  simp only [Dominated, List.mem_append, or_and_right, exists_or]

theorem maximal_singleton (op : MVOp ν α) (c : VClock α) (v : ν) :
    Maximal [op] c v ↔ (c, v) = (op.clock, op.val) ∧ op.clock.isEmpty = false := by
  rewrite [Maximal, dominated_singleton, List.mem_singleton]
  constructor
  · rintro ⟨rfl, hne, _⟩
    exact ⟨rfl, hne⟩
  · -- the op's own clock is not strictly below itself
    rintro ⟨⟨⟩, hne⟩
    exact ⟨rfl, hne, VClock.slt_irrefl _⟩

theorem maximal_append (K K' : List (MVOp ν α)) (c : VClock α) (v : ν) :
    Maximal (K ++ K') c v ↔ (Maximal K c v ∧ ¬ Dominated K' c) ∨ (Maximal K' c v ∧ ¬ Dominated K c) := by
  simp only [Maximal, dominated_append, List.mem_append, not_or, or_and_right, and_assoc, and_comm (a := ¬ Dominated K' c)]

theorem MVRep.init : MVRep ([] : List (MVOp ν α)) MVReg.init :=
  ⟨List.nodup_nil, fun c v => by simp [MVReg.init, Maximal]⟩

theorem MVRep.congr {K K' : List (MVOp ν α)} {s : MVReg ν α} (e : ∀ o, o ∈ K ↔ o ∈ K') (h : MVRep K s) : MVRep K' s :=
  ⟨h.1, fun c v => by rw [h.2, Maximal.congr e]⟩

theorem MVRep.perm {K : List (MVOp ν α)} {s s' : MVReg ν α} (h : MVRep K s) (p : s.vals.Perm s'.vals) : MVRep K s' :=
  ⟨p.nodup_iff.mp h.1, fun c v => by rw [← p.mem_iff, h.2]⟩

/-- same knowledge ⇒ same entries up to the order of the `Vec` -/
theorem MVRep.functional {K : List (MVOp ν α)} {s s' : MVReg ν α} (h : MVRep K s) (h' : MVRep K s') :
    s.vals.Perm s'.vals := by
  rewrite [List.perm_ext_iff_of_nodup h.1 h'.1]
  rintro ⟨c, v⟩; rw [h.2, h'.2]

theorem MVRep.apply {U K : List (MVOp ν α)} {s : MVReg ν α} {op : MVOp ν α} (wf : MVWF U)
    (sub : ∀ o ∈ K, o ∈ U) (h : MVRep K s) (hu : op ∈ U) : MVRep (op :: K) (s.apply op) := by
  refine ⟨MVReg.nodup_apply s op h.1, fun c v => ?_⟩
  rewrite [← List.singleton_append, maximal_append, maximal_singleton, dominated_singleton, not_dominated_iff_vals h, ← h.2,
    or_comm]
  -- a known put with the op's clock is, by well-formedness, the op
  exact MVReg.mem_apply s (wf.1 op hu) (fun q hq => wf.1 _ (sub _ (h.known hq))) h.antichain
    (fun q hq e => Prod.ext e (wf.2 _ (sub _ (h.known hq)) op hu e)) (c, v)

theorem MVRep.merge {U K K' : List (MVOp ν α)} {s s' : MVReg ν α} (wf : MVWF U)
    (sub : ∀ o ∈ K, o ∈ U) (sub' : ∀ o ∈ K', o ∈ U) (h : MVRep K s) (h' : MVRep K' s') :
    MVRep (K ++ K') (s.merge s') := by
  refine ⟨MVReg.nodup_merge s s' h.1 h'.1, fun c v => ?_⟩
  rewrite [maximal_append, not_dominated_iff_vals h', not_dominated_iff_vals h, ← h.2, ← h'.2]
  -- stored entries with the same clock carry, by well-formedness, the same value
  exact MVReg.mem_merge h'.antichain
    (fun p hp q hq e => Prod.ext e (wf.2 _ (sub' _ (h'.known hp)) _ (sub _ (h.known hq)) e)) (c, v)

/-- the representation system: ops = puts, no delivery discipline, equality up to permutation -/
def mvregSys : RepSysE (MVReg ν α) (MVOp ν α) where
  init := MVReg.init
  apply := MVReg.apply
  merge := MVReg.merge
  Equiv := fun s t => s.vals.Perm t.vals
  WF := MVWF
  Ok := fun _ _ _ => True
  Inv := fun U K => ∀ o ∈ K, o ∈ U
  Rep := fun _ K s => MVRep K s
  equiv_refl := fun _ => List.Perm.refl _
  equiv_symm := fun h => h.symm
  equiv_trans := fun h1 h2 => h1.trans h2
  inv_nil := fun _ h => by cases h
  inv_cons := fun _ hk hu _ o ho => by
    rcases List.mem_cons.mp ho with e | ho
    · subst e; exact hu
    · exact hk o ho
  inv_append := fun h1 h2 o ho => (List.mem_append.mp ho).elim (h1 o) (h2 o)
  inv_congr := fun e h o ho => h o ((e o).mpr ho)
  ok_of_mem := fun _ _ _ => trivial
  rep_init := MVRep.init
  rep_apply := fun wf inv h hu _ => MVRep.apply wf inv h hu
  rep_merge := fun wf inv inv' h h' => MVRep.merge wf inv inv' h h'
  rep_congr := fun e h => h.congr e
  rep_equiv := fun h p => h.perm p
  rep_functional := fun _ _ h h' => h.functional h'

end mvreg
end Crdt
