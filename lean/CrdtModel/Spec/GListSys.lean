import CrdtModel.Model.GList
import CrdtModel.Proofs.OrswotBasic
import CrdtModel.Spec.RepSys
/-! GList as a representation system: the set of identifiers is the union of the inserted identifiers; no delivery
discipline at all (`Ok := True`). -/
namespace Crdt

namespace GList
variable {τ : Type} [LinOrd τ]

def has (g : GList τ) (i : Identifier τ) : Bool := g.list.contains i

theorem mem_ids_iff {g : GList τ} {i : Identifier τ} : i ∈ g.ids ↔ g.has i = true := by
  rewrite [has, FMap.contains_iff_mem, ids, List.mem_map]
  constructor
  · rintro ⟨p, h, rfl⟩
    exact ⟨p.2, h⟩
  · rintro ⟨v, h⟩
    exact ⟨_, h, rfl⟩

theorem has_apply (g : GList τ) (op : GListOp τ) (i : Identifier τ) :
    (g.apply op).has i = true ↔ (i = op.id ∨ g.has i = true) := by
  cases op; exact FMap.contains_insert

/-- `GList.merge` (`self.list.extend(other.list)`) is the same fold of `insert` as `Orswot.unionSet`, on the same
unit-valued map: the Orswot lemma applies as it stands -/
theorem has_merge (g o : GList τ) (i : Identifier τ) : (g.merge o).has i = (g.has i || o.has i) :=
  Orswot.contains_unionSet g.list o.list i

theorem ext {a b : GList τ} (h : ∀ i, a.has i = b.has i) : a = b :=
  congrArg GList.mk (FMap.fset_ext h)

end GList

def glistSys {τ : Type} [LinOrd τ] : RepSys (GList τ) (GListOp τ) where
  init := GList.new
  apply := GList.apply
  merge := GList.merge
  WF := fun _ => True
  Ok := fun _ _ _ => True
  Inv := fun _ _ => True
  Rep := fun _ K g => ∀ i, g.has i = true ↔ ∃ op ∈ K, op.id = i
  inv_nil := trivial
  inv_cons := fun _ _ _ _ => trivial
  inv_append := fun _ _ => trivial
  inv_congr := fun _ _ => trivial
  ok_of_mem := fun _ _ _ => trivial
  rep_init := fun i => by simp [GList.new, GList.has, FMap.contains]
  rep_apply := fun _ _ h _ _ i => by
    rw [GList.has_apply, h i]
    constructor
    · rintro (e | ⟨op, hop, e⟩)
      · exact ⟨_, List.mem_cons_self, e.symm⟩
      · exact ⟨op, List.mem_cons_of_mem _ hop, e⟩
    · rintro ⟨op, hop, e⟩
      rcases List.mem_cons.mp hop with x | x
      · subst x; exact Or.inl e.symm
      · exact Or.inr ⟨op, x, e⟩
  rep_merge := fun _ _ _ h h' i => by
    rw [GList.has_merge, Bool.or_eq_true, h i, h' i]
    constructor
    · rintro (⟨op, hop, e⟩ | ⟨op, hop, e⟩)
      · exact ⟨op, List.mem_append.mpr (Or.inl hop), e⟩
      · exact ⟨op, List.mem_append.mpr (Or.inr hop), e⟩
    · rintro ⟨op, hop, e⟩
      rcases List.mem_append.mp hop with x | x
      · exact Or.inl ⟨op, x, e⟩
      · exact Or.inr ⟨op, x, e⟩
  rep_congr := fun e h i => by
    rw [h i]
    constructor
    · rintro ⟨op, hop, x⟩; exact ⟨op, (e op).mp hop, x⟩
    · rintro ⟨op, hop, x⟩; exact ⟨op, (e op).mpr hop, x⟩
  rep_functional := fun _ _ h h' => GList.ext (fun i => by
    have a := h i; have b := h' i
    rename_i s s' _ _
    cases h1 : s.has i <;> cases h2 : s'.has i
    · rfl
    · exact absurd (a.mpr (b.mp h2)) (by rw [h1]; simp)
    · exact absurd (b.mpr (a.mp h1)) (by rw [h2]; simp)
    · rfl)

end Crdt
