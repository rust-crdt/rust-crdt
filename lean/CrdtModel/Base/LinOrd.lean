/-! A minimal lawful strict total order class (model of Rust `Ord` used sanely), with the instances the model needs for
keys: `Nat`, pairs and lists (lexicographic), `Unit`. -/
namespace Crdt

class LinOrd (α : Type) where
  lt : α → α → Prop
  decLt : ∀ a b, Decidable (lt a b)
  decEq : DecidableEq α
  irrefl : ∀ a, ¬ lt a a
  trans : ∀ {a b c}, lt a b → lt b c → lt a c
  tri : ∀ a b, lt a b ∨ a = b ∨ lt b a

namespace LinOrd
variable {α : Type} [LinOrd α]

instance : LT α := ⟨LinOrd.lt⟩
instance (a b : α) : Decidable (a < b) := LinOrd.decLt a b
instance : DecidableEq α := LinOrd.decEq

theorem lt_irrefl (a : α) : ¬ a < a := LinOrd.irrefl a
theorem lt_trans {a b c : α} : a < b → b < c → a < c := LinOrd.trans
theorem lt_tri (a b : α) : a < b ∨ a = b ∨ b < a := LinOrd.tri a b
theorem lt_asymm {a b : α} (h : a < b) : ¬ b < a := fun h' => lt_irrefl a (lt_trans h h')
theorem ne_of_lt {a b : α} (h : a < b) : a ≠ b := fun e => by subst e; exact lt_irrefl a h

theorem not_lt_antisymm {a b : α} (h1 : ¬ a < b) (h2 : ¬ b < a) : a = b :=
  ((lt_tri a b).resolve_left h1).resolve_right h2

theorem not_lt_trans {a b c : α} (h1 : ¬ a < b) (h2 : ¬ b < c) : ¬ a < c := fun h => by
  rcases lt_tri b a with x | x | x
  · exact h2 (lt_trans x h)
  · exact h2 (x ▸ h)
  · exact h1 x

end LinOrd

instance : LinOrd Nat where
  lt := Nat.lt
  decLt := fun a b => Nat.decLt a b
  decEq := inferInstance
  irrefl := Nat.lt_irrefl
  trans := Nat.lt_trans
  tri := fun a b => by
    rcases Nat.lt_trichotomy a b with h | h | h
    · exact Or.inl h
    · exact Or.inr (Or.inl h)
    · exact Or.inr (Or.inr h)

/-- lexicographic order on pairs (Rust `derive(Ord)` on a two-field struct / tuple) -/
instance {α β : Type} [LinOrd α] [LinOrd β] : LinOrd (α × β) where
  lt := fun p q => p.1 < q.1 ∨ (p.1 = q.1 ∧ p.2 < q.2)
  decLt := fun _ _ => inferInstanceAs (Decidable (_ ∨ _))
  decEq := inferInstance
  irrefl := by
    rintro ⟨a, b⟩ (h | ⟨_, h⟩)
    · exact LinOrd.lt_irrefl a h
    · exact LinOrd.lt_irrefl b h
  trans := by
    rintro ⟨a1, b1⟩ ⟨a2, b2⟩ ⟨a3, b3⟩ h1 h2
    rcases h1 with h1 | ⟨e1, h1⟩ <;> rcases h2 with h2 | ⟨e2, h2⟩ <;> simp only at *
    · exact Or.inl (LinOrd.lt_trans h1 h2)
    · subst e2; exact Or.inl h1
    · subst e1; exact Or.inl h2
    · subst e1; subst e2; exact Or.inr ⟨rfl, LinOrd.lt_trans h1 h2⟩
  tri := by
    rintro ⟨a1, b1⟩ ⟨a2, b2⟩
    rcases LinOrd.lt_tri a1 a2 with h | h | h
    · exact Or.inl (Or.inl h)
    · subst h
      rcases LinOrd.lt_tri b1 b2 with h | h | h
      · exact Or.inl (Or.inr ⟨rfl, h⟩)
      · subst h; exact Or.inr (Or.inl rfl)
      · exact Or.inr (Or.inr (Or.inr ⟨rfl, h⟩))
    · exact Or.inr (Or.inr (Or.inl h))

open LinOrd

/-- lexicographic order on lists (shorter prefix first) – used to order clocks as map keys -/
def listLt {α : Type} [LinOrd α] : List α → List α → Prop
  | [], [] => False
  | [], _ :: _ => True
  | _ :: _, [] => False
  | a :: as, b :: bs => a < b ∨ (a = b ∧ listLt as bs)

def listLtDec {α : Type} [LinOrd α] : (l₁ l₂ : List α) → Decidable (listLt l₁ l₂)
  | [], [] => isFalse (fun h => h)
  | [], _ :: _ => isTrue trivial
  | _ :: _, [] => isFalse (fun h => h)
  | a :: as, b :: bs =>
    match listLtDec as bs with
    | isTrue h => if e : a = b then isTrue (Or.inr ⟨e, h⟩) else
        if l : a < b then isTrue (Or.inl l) else isFalse (by rintro (x | ⟨x, _⟩) <;> contradiction)
    | isFalse h => if l : a < b then isTrue (Or.inl l) else isFalse (by rintro (x | ⟨_, x⟩) <;> contradiction)

instance {α : Type} [LinOrd α] (l₁ l₂ : List α) : Decidable (listLt l₁ l₂) := listLtDec l₁ l₂

theorem listLt_irrefl {α : Type} [LinOrd α] : ∀ l : List α, ¬ listLt l l := by
  intro l
  induction l with
  | nil => exact fun h => h
  | cons a as ih =>
    rintro (h | ⟨_, h⟩)
    · exact lt_irrefl a h
    · exact ih h

theorem listLt_trans {α : Type} [LinOrd α] {l₁ l₂ l₃ : List α} (h1 : listLt l₁ l₂) (h2 : listLt l₂ l₃) :
    listLt l₁ l₃ := by
  fun_induction listLt l₁ l₂ generalizing l₃ with
  | case1 => exact h1.elim
  | case2 b bs => cases l₃ with
    | nil => exact h2.elim
    | cons => trivial
  | case3 => exact h1.elim
  | case4 a as b bs ih =>
    cases l₃ with
    | nil => exact h2.elim
    | cons c cs =>
      rcases h1 with h1 | ⟨e1, h1⟩ <;> rcases h2 with h2 | ⟨e2, h2⟩
      · exact Or.inl (lt_trans h1 h2)
      · subst e2; exact Or.inl h1
      · subst e1; exact Or.inl h2
      · subst e1; subst e2; exact Or.inr ⟨rfl, ih h1 h2⟩

theorem listLt_tri {α : Type} [LinOrd α] (l₁ l₂ : List α) : listLt l₁ l₂ ∨ l₁ = l₂ ∨ listLt l₂ l₁ := by
  fun_induction listLt l₁ l₂ with
  | case1 => exact .inr (.inl rfl)
  | case2 => exact .inl trivial
  | case3 => exact .inr (.inr trivial)
  | case4 a as b bs ih =>
    rcases lt_tri a b with h | h | h
    · exact .inl (.inl h)
    · subst h
      rcases ih with h | h | h
      · exact .inl (.inr ⟨rfl, h⟩)
      · subst h; exact .inr (.inl rfl)
      · exact .inr (.inr (.inr ⟨rfl, h⟩))
    · exact .inr (.inr (.inl h))

instance {α : Type} [LinOrd α] : LinOrd (List α) where
  lt := listLt
  decLt := inferInstance
  decEq := inferInstance
  irrefl := listLt_irrefl
  trans := listLt_trans
  tri := listLt_tri

/-- for sets as maps to `Unit` (`FSet`): an `FMap κ ν` is ordered only if `ν` is -/
instance : LinOrd Unit where
  lt := fun _ _ => False
  decLt := fun _ _ => isFalse (fun h => h)
  decEq := inferInstance
  irrefl := fun _ h => h
  trans := fun h _ => h
  tri := fun _ _ => Or.inr (Or.inl rfl)

end Crdt
