import CrdtModel.Base.LinOrd
/-! Finite maps as strictly sorted association lists. Models BTreeMap / HashMap / sets.

`AL` is the bare lists, `FMap` a list bundled with its sortedness.  A map is spoken of through `get?` and `contains`;
the lemmas that mention `m.l` (`mem_l_iff`, `foldl_obs`, `mem_keys_iff`, …) serve what iterates.  The `AL` lemmas induct
along the function they are about (`fun_induction`: one case per branch of its definition); of sortedness the `get?`
facts use that the head key lies below the tail's (`get?_eq_none_of_lb`).
First, facts on lists, options and `ite` that core lacks. -/
theorem List.filterMap_congr {β γ : Type} {f g : β → Option γ} : ∀ {l : List β}, (∀ x ∈ l, f x = g x) →
    l.filterMap f = l.filterMap g := by
  intro l h
  induction l with
  | nil => rfl
  | cons x t ih =>
    rw [List.filterMap_cons, List.filterMap_cons, h x List.mem_cons_self, ih fun y hy => h y (List.mem_cons_of_mem _ hy)]

/-- among the elements of `l`, `f` is injective where it is defined, if the list of its values has no duplicate -/
theorem List.eq_of_nodup_filterMap {β γ : Type} {f : β → Option γ} {l : List β} (hn : (l.filterMap f).Nodup) :
    ∀ ⦃a⦄, a ∈ l → ∀ ⦃b⦄, b ∈ l → ∀ c, f a = some c → f b = some c → a = b :=
  -- of two different positions of `l`, `hn` says that `f` takes no common value `c` there: the claim holds for want of `c`
  have earlier : l.Pairwise fun a b => ∀ c, f a = some c → f b = some c → a = b :=
    (List.pairwise_filterMap.mp hn).imp fun ne c ha hb => absurd rfl (ne c ha c hb)
  -- so it holds of every two elements: of an element and itself, of an earlier and a later, and it is symmetric
  List.Pairwise.forall_of_forall_of_flip (fun _ _ _ _ _ => rfl) earlier
    (earlier.imp fun h c hb ha => (h c ha hb).symm)

theorem List.mem_iff_of_subset {β : Type} {l l' : List β} (h : l ⊆ l') (h' : l' ⊆ l) (a : β) : a ∈ l ↔ a ∈ l' :=
  ⟨@h a, @h' a⟩

theorem List.filter_length_beq_zero {β : Type} (f : β → Bool) (l : List β) :
    ((l.filter f).length == 0) = true ↔ ∀ q ∈ l, f q = false := by
  simp only [beq_iff_eq, List.length_eq_zero_iff, List.filter_eq_nil_iff, Bool.not_eq_true]

theorem List.foldl_or {σ β : Type _} (step : σ → β → σ) (Q : σ → Prop) (R : β → Prop)
    (h : ∀ s b, Q (step s b) ↔ (Q s ∨ R b)) (l : List β) (s : σ) : Q (l.foldl step s) ↔ (Q s ∨ ∃ b ∈ l, R b) := by
  induction l generalizing s with
  | nil => simp
  | cons b t ih => simp only [List.foldl_cons, ih, h, or_assoc, List.mem_cons, exists_eq_or_imp]

theorem Option.eq_of_isSome_of_getD {α : Type} {a b : Option α} (d : α) (hs : a.isSome = b.isSome)
    (hv : a.getD d = b.getD d) : a = b := by
  cases a <;> cases b
  · rfl
  · cases hs
  · cases hs
  · exact congrArg some hv

theorem ite_some_eq_none {β : Type} {c : Prop} [Decidable c] {x : β} {r : Option β} :
    (if c then some x else r) = none ↔ ¬ c ∧ r = none := by
  by_cases h : c <;> simp [h]

theorem ite_ite_comm {α : Sort _} {a b : Prop} [Decidable a] [Decidable b] (h : a → ¬ b) (x y z : α) :
    (if a then x else if b then y else z) = if b then y else if a then x else z := by
  by_cases ha : a
  · rw [if_pos ha, if_neg (h ha), if_pos ha]
  · rw [if_neg ha, if_neg ha]

theorem Except.exists_error_iff {ε : Type} {r : Except ε Unit} : (∃ e, r = .error e) ↔ ¬ r = .ok () := by
  cases r <;> simp

namespace Crdt
open LinOrd

namespace AL
variable {κ : Type} [LinOrd κ] {ν μ : Type}

def get? : List (κ × ν) → κ → Option ν
  | [], _ => none
  | (k, v) :: t, x => if x = k then some v else get? t x

abbrev Sorted (l : List (κ × ν)) : Prop := l.Pairwise (fun p q => p.1 < q.1)

def insert (k : κ) (v : ν) : List (κ × ν) → List (κ × ν)
  | [] => [(k, v)]
  | (k', v') :: t =>
    if k < k' then (k, v) :: (k', v') :: t
    else if k = k' then (k, v) :: t
    else (k', v') :: insert k v t

def erase (k : κ) : List (κ × ν) → List (κ × ν)
  | [] => []
  | (k', v') :: t => if k = k' then t else (k', v') :: erase k t

def filterMap (f : κ → ν → Option μ) : List (κ × ν) → List (κ × μ)
  | [] => []
  | (k, v) :: t => match f k v with
    | some w => (k, w) :: filterMap f t
    | none => filterMap f t

theorem get?_eq_none_of_lb {l : List (κ × ν)} {b x : κ} (h : ∀ p ∈ l, b < p.1) (hx : x = b ∨ x < b) :
    get? l x = none := by
  fun_induction get? l x with
  | case1 => rfl
  | case2 => exact absurd (h _ List.mem_cons_self) (hx.elim (· ▸ lt_irrefl _) lt_asymm)
  | case3 k v t x ne ih => exact ih (fun p hp => h p (List.mem_cons_of_mem _ hp)) hx

theorem get?_tail_of_sorted {k : κ} {v : ν} {t : List (κ × ν)} (hs : Sorted ((k, v) :: t)) : get? t k = none :=
  get?_eq_none_of_lb (fun _ => List.rel_of_pairwise_cons hs) (Or.inl rfl)

theorem mem_of_get? {l : List (κ × ν)} {x : κ} {v : ν} (h : get? l x = some v) : (x, v) ∈ l := by
  fun_induction get? l x with
  | case1 => cases h
  | case2 => cases h; exact List.mem_cons_self
  | case3 k w t x ne ih => exact List.mem_cons_of_mem _ (ih h)

theorem get?_of_mem {l : List (κ × ν)} (hs : Sorted l) {x : κ} {v : ν} (h : (x, v) ∈ l) : get? l x = some v := by
  induction l with
  | nil => cases h
  | cons hd t ih =>
    have hs := List.pairwise_cons.mp hs
    rcases List.mem_cons.mp h with e | h'
    · subst e; exact if_pos rfl
    · exact (if_neg (ne_of_lt (hs.1 _ h')).symm).trans (ih hs.2 h')

theorem get?_insert (l : List (κ × ν)) (k x : κ) (v : ν) :
    get? (insert k v l) x = if x = k then some v else get? l x := by
  fun_induction insert k v l with
  | case1 => rfl
  | case2 => rfl
  | case3 =>
    -- old and new head both have the key `k`: for `x ≠ k` either lookup goes on into `t`
    exact ite_congr rfl (fun _ => rfl) fun ne => (if_neg ne).symm
  | case4 k' v' t nlt ne ih =>
    simp only [get?, ih]
    exact ite_ite_comm (fun e1 e2 => ne (e2.symm.trans e1)) ..

theorem mem_insert {l : List (κ × ν)} {k : κ} {v : ν} {p : κ × ν} (hp : p ∈ insert k v l) :
    p = (k, v) ∨ p ∈ l := by
  fun_induction insert k v l with
  | case1 => exact Or.inl (List.mem_singleton.mp hp)
  | case2 => exact List.mem_cons.mp hp
  | case3 => exact (List.mem_cons.mp hp).imp_right (List.mem_cons_of_mem _)
  | case4 k' v' t nlt ne ih =>
    rcases List.mem_cons.mp hp with e | hp
    · exact Or.inr (e ▸ List.mem_cons_self)
    · exact (ih hp).imp_right (List.mem_cons_of_mem _)

theorem sorted_insert {l : List (κ × ν)} (hs : Sorted l) (k : κ) (v : ν) : Sorted (insert k v l) := by
  fun_induction insert k v l with
  | case1 => exact List.pairwise_singleton ..
  | case2 k' v' t lt =>
    refine List.pairwise_cons.mpr ⟨List.forall_mem_cons.mpr ⟨lt, fun p hp => ?_⟩, hs⟩
    exact lt_trans lt (List.rel_of_pairwise_cons hs hp)
  | case3 => exact List.pairwise_cons.mpr (List.pairwise_cons.mp hs)
  | case4 k' v' t nlt ne ih =>
    have hs' := List.pairwise_cons.mp hs
    refine List.pairwise_cons.mpr ⟨fun p hp => ?_, ih hs'.2⟩
    rcases mem_insert hp with e | hp
    · subst e; exact ((lt_tri k k').resolve_left nlt).resolve_left ne
    · exact hs'.1 p hp

theorem erase_sublist (k : κ) (l : List (κ × ν)) : (erase k l).Sublist l := by
  fun_induction erase k l with
  | case1 => exact .slnil
  | case2 => exact List.sublist_cons_self _ _
  | case3 k' v' t ne ih => exact ih.cons_cons _

theorem sorted_erase {l : List (κ × ν)} (hs : Sorted l) (k : κ) : Sorted (erase k l) :=
  hs.sublist (erase_sublist k l)

theorem get?_erase {l : List (κ × ν)} (hs : Sorted l) (k x : κ) :
    get? (erase k l) x = if x = k then none else get? l x := by
  fun_induction erase k l with
  | case1 => exact (ite_self _).symm
  | case2 =>
    by_cases e : x = k
    · rw [if_pos e, e, get?_tail_of_sorted hs]
    · rw [if_neg e, get?, if_neg e]
  | case3 k' v' t ne ih =>
    simp only [get?, ih hs.of_cons]
    exact ite_ite_comm (fun e1 e2 => ne (e2.symm.trans e1)) ..

omit [LinOrd κ] in
theorem keys_filterMap_sublist (f : κ → ν → Option μ) (l : List (κ × ν)) :
    ((filterMap f l).map (·.1)).Sublist (l.map (·.1)) := by
  fun_induction filterMap f l with
  | case1 => exact .slnil
  | case2 _ _ _ _ _ ih => exact ih.cons_cons _
  | case3 _ _ _ _ ih => exact ih.cons _

theorem sorted_filterMap (f : κ → ν → Option μ) {l : List (κ × ν)} (hs : Sorted l) : Sorted (filterMap f l) :=
  List.pairwise_map.mp ((List.pairwise_map.mpr hs).sublist (keys_filterMap_sublist f l))

theorem get?_filterMap (f : κ → ν → Option μ) {l : List (κ × ν)} (hs : Sorted l) (x : κ) :
    get? (filterMap f l) x = (get? l x).bind (f x) := by
  fun_induction filterMap f l with
  | case1 => rfl
  | case2 k v t w hw ih =>
    simp only [get?, ih hs.of_cons]
    split
    · next e => rw [e, Option.bind_some, hw]
    · rfl
  | case3 k v t hn ih =>
    simp only [get?, ih hs.of_cons]
    split
    · next e => rewrite [e, get?_tail_of_sorted hs, Option.bind_some, hn]; rfl
    · rfl

theorem nodup_of_sorted {l : List (κ × ν)} (hs : Sorted l) : l.Nodup :=
  hs.imp fun lt e => ne_of_lt lt (congrArg Prod.fst e)

/-- the same entries, both without duplicates: a permutation; both sorted by the same strict order: the same list -/
theorem ext_of_mem {l₁ l₂ : List (κ × ν)} (h₁ : Sorted l₁) (h₂ : Sorted l₂) (h : ∀ p, p ∈ l₁ ↔ p ∈ l₂) :
    l₁ = l₂ :=
  ((List.perm_ext_iff_of_nodup (nodup_of_sorted h₁) (nodup_of_sorted h₂)).mpr h).eq_of_pairwise
    (fun _ _ _ _ lt gt => absurd gt (lt_asymm lt)) h₁ h₂

theorem ext {l₁ l₂ : List (κ × ν)} (h₁ : Sorted l₁) (h₂ : Sorted l₂)
    (h : ∀ x, get? l₁ x = get? l₂ x) : l₁ = l₂ :=
  ext_of_mem h₁ h₂ fun p =>
    ⟨fun hp => mem_of_get? ((h p.1).symm.trans (get?_of_mem h₁ hp)),
     fun hp => mem_of_get? ((h p.1).trans (get?_of_mem h₂ hp))⟩

theorem keys_insert_subset {l : List (κ × ν)} {k x : κ} {v : ν} (h : x ∈ (insert k v l).map (·.1)) :
    x = k ∨ x ∈ l.map (·.1) := by
  obtain ⟨p, hp, rfl⟩ := List.mem_map.mp h
  exact (mem_insert hp).imp (fun e => by rw [e]) (List.mem_map_of_mem)

theorem keys_erase_subset {l : List (κ × ν)} {k x : κ} (h : x ∈ (erase k l).map (·.1)) : x ∈ l.map (·.1) :=
  ((erase_sublist k l).map _).subset h

/-- The loop `for (k, v) in other { self.step(k, v) }` (`VClock::merge`, `VClock::reset_remove`, `GSet::merge`, …), observed
at one key `a`, is one step with the entry of `a`: keys occur once.  `obs` need not be what the step reads:
`VClock::reset_remove` tests `get` but is observed through `dots.get?`; `own` holds as `get` is `getD 0` of `get?`. -/
theorem foldl_obs {σ β : Type} (step : σ → κ × ν → σ) (obs : σ → κ → β)
    (other : ∀ s k v a, a ≠ k → obs (step s (k, v)) a = obs s a)
    (own : ∀ s s' k v, obs s k = obs s' k → obs (step s (k, v)) k = obs (step s' (k, v)) k)
    {l : List (κ × ν)} (hs : Sorted l) (s : σ) (a : κ) :
    obs (l.foldl step s) a =
      match get? l a with
      | some v => obs (step s (a, v)) a
      | none => obs s a := by
  induction l generalizing s with
  | nil => rfl
  | cons hd t ih =>
    obtain ⟨k, v⟩ := hd
    rewrite [List.foldl_cons, ih hs.of_cons]
    by_cases e : a = k
    · subst e
      rw [get?_tail_of_sorted hs, get?, if_pos rfl]
    · rewrite [get?, if_neg e]
      cases get? t a with
      | none => exact other s k v a e
      | some w => exact own _ _ a w (other s k v a e)

end AL

/-- finite map with strictly increasing keys -/
structure FMap (κ : Type) [LinOrd κ] (ν : Type) where
  l : List (κ × ν)
  sorted : AL.Sorted l

namespace FMap
variable {κ : Type} [LinOrd κ] {ν μ : Type}

instance [DecidableEq ν] : DecidableEq (FMap κ ν) := fun a b =>
  if h : a.l = b.l then isTrue (by cases a; cases b; simp at h; subst h; rfl)
  else isFalse (fun e => h (by subst e; rfl))

def empty : FMap κ ν := ⟨[], List.Pairwise.nil⟩
instance : EmptyCollection (FMap κ ν) := ⟨empty⟩
def get? (m : FMap κ ν) (k : κ) : Option ν := AL.get? m.l k
def insert (m : FMap κ ν) (k : κ) (v : ν) : FMap κ ν := ⟨AL.insert k v m.l, AL.sorted_insert m.sorted k v⟩
def erase (m : FMap κ ν) (k : κ) : FMap κ ν := ⟨AL.erase k m.l, AL.sorted_erase m.sorted k⟩
def filterMap (f : κ → ν → Option μ) (m : FMap κ ν) : FMap κ μ := ⟨AL.filterMap f m.l, AL.sorted_filterMap f m.sorted⟩
def isEmpty (m : FMap κ ν) : Bool := m.l.isEmpty
def contains (m : FMap κ ν) (k : κ) : Bool := (m.get? k).isSome
def size (m : FMap κ ν) : Nat := m.l.length

@[simp] theorem get?_empty (k : κ) : (∅ : FMap κ ν).get? k = none := rfl
@[simp] theorem get?_insert (m : FMap κ ν) (k x : κ) (v : ν) :
    (m.insert k v).get? x = if x = k then some v else m.get? x := AL.get?_insert m.l k x v
@[simp] theorem get?_erase (m : FMap κ ν) (k x : κ) :
    (m.erase k).get? x = if x = k then none else m.get? x := AL.get?_erase m.sorted k x
@[simp] theorem get?_filterMap (f : κ → ν → Option μ) (m : FMap κ ν) (x : κ) :
    (m.filterMap f).get? x = (m.get? x).bind (f x) := AL.get?_filterMap f m.sorted x

theorem foldl_obs {σ β : Type} (step : σ → κ × ν → σ) (obs : σ → κ → β)
    (other : ∀ s k v a, a ≠ k → obs (step s (k, v)) a = obs s a)
    (own : ∀ s s' k v, obs s k = obs s' k → obs (step s (k, v)) k = obs (step s' (k, v)) k)
    (m : FMap κ ν) (s : σ) (a : κ) :
    obs (m.l.foldl step s) a =
      match m.get? a with
      | some v => obs (step s (a, v)) a
      | none => obs s a :=
  AL.foldl_obs step obs other own m.sorted s a

theorem ext {a b : FMap κ ν} (h : ∀ k, a.get? k = b.get? k) : a = b := by
  cases a with | mk la sa => cases b with | mk lb sb =>
  have : la = lb := AL.ext sa sb h
  subst this; rfl

theorem isEmpty_iff {m : FMap κ ν} : m.isEmpty = true ↔ ∀ k, m.get? k = none := by
  cases m with | mk l s =>
  cases l with
  | nil => exact iff_of_true rfl fun _ => rfl
  | cons hd t => exact iff_of_false Bool.false_ne_true fun h => Option.some_ne_none _ ((if_pos rfl).symm.trans (h hd.1))

theorem mem_l_iff {m : FMap κ ν} {k : κ} {v : ν} : (k, v) ∈ m.l ↔ m.get? k = some v :=
  ⟨AL.get?_of_mem m.sorted, AL.mem_of_get?⟩

theorem contains_iff {m : FMap κ ν} {k : κ} : m.contains k = true ↔ ∃ v, m.get? k = some v := by
  simp only [contains, Option.isSome_iff_exists]

theorem contains_eq_false_iff {m : FMap κ ν} {k : κ} : m.contains k = false ↔ m.get? k = none := by
  simp only [contains, Option.isSome_eq_false_iff, Option.isNone_iff_eq_none]

theorem contains_of_get? {m : FMap κ ν} {k : κ} {v : ν} (h : m.get? k = some v) : m.contains k = true :=
  contains_iff.mpr ⟨v, h⟩

theorem contains_iff_mem {m : FMap κ ν} {k : κ} : m.contains k = true ↔ ∃ v, (k, v) ∈ m.l := by
  simp only [contains_iff, mem_l_iff]

theorem mem_keys_iff {m : FMap κ ν} {k : κ} : k ∈ m.l.map (·.1) ↔ m.contains k = true := by
  simp only [contains_iff_mem, List.mem_map, Prod.exists, exists_and_right, exists_eq_right]

theorem forall_mem_fst {m : FMap κ ν} {P : κ → Prop} : (∀ p, p ∈ m.l → P p.1) ↔ ∀ k, m.contains k = true → P k := by
  simp only [← mem_keys_iff, List.forall_mem_map]

theorem ext_some {a b : FMap κ ν} (h : ∀ k v, a.get? k = some v ↔ b.get? k = some v) : a = b :=
  ext fun k => Option.ext (h k)

theorem fset_ext {a b : FMap κ Unit} (h : ∀ k, a.contains k = b.contains k) : a = b :=
  ext fun k => Option.eq_of_isSome_of_getD () (h k) rfl

theorem contains_insert {m : FMap κ ν} {k x : κ} {v : ν} :
    (m.insert k v).contains x = true ↔ (x = k ∨ m.contains x = true) := by
  simp only [contains, get?_insert]
  by_cases h : x = k <;> simp [h]

theorem get?_insert_of_fresh {m : FMap κ ν} {k x : κ} {w : ν} (hk : m.get? k = none) (v : ν) (hg : m.get? x = some w) :
    (m.insert k v).get? x = some w := by
  rewrite [get?_insert, if_neg (fun e => by rewrite [e, hk] at hg; cases hg)]; exact hg

/-- what holds of every stored pair still holds after an `erase` … -/
theorem forall_get?_erase {m : FMap κ ν} {P : κ → ν → Prop} (h : ∀ x w, m.get? x = some w → P x w) (k : κ) :
    ∀ x w, (m.erase k).get? x = some w → P x w := fun x w hg => by
  rewrite [get?_erase] at hg
  split at hg
  · cases hg
  · exact h x w hg

/-- … and after an `insert` of a pair of which it holds -/
theorem forall_get?_insert_of {m : FMap κ ν} {P : κ → ν → Prop} {k : κ} {v : ν} (hv : P k v)
    (h : ∀ x w, m.get? x = some w → P x w) : ∀ x w, (m.insert k v).get? x = some w → P x w := fun x w hg => by
  rewrite [get?_insert] at hg
  split at hg
  · next e => cases hg; exact e ▸ hv
  · exact h x w hg

theorem forall_get?_insert {m : FMap κ ν} {k : κ} (hk : m.get? k = none) (v : ν) (P : κ → ν → Prop) :
    (∀ x w, (m.insert k v).get? x = some w → P x w) ↔ (P k v ∧ ∀ x w, m.get? x = some w → P x w) :=
  ⟨fun h => ⟨h k v (by simp), fun x w hg => h x w (get?_insert_of_fresh hk v hg)⟩,
    fun h => forall_get?_insert_of h.1 h.2⟩

theorem mem_values_iff {m : FMap κ ν} {key : ν → κ} {P : ν → Prop} (h : ∀ k v, m.get? k = some v ↔ (key v = k ∧ P v))
    {v : ν} : v ∈ m.l.map (·.2) ↔ P v := by
  rewrite [List.mem_map]
  constructor
  · rintro ⟨⟨k, w⟩, hm, rfl⟩; exact ((h k w).mp (mem_l_iff.mp hm)).2
  · exact fun pv => ⟨(key v, v), mem_l_iff.mpr ((h _ v).mpr ⟨rfl, pv⟩), rfl⟩

theorem erase_of_get?_none {m : FMap κ ν} {k : κ} (h : m.get? k = none) : m.erase k = m := by
  apply ext
  intro x
  by_cases hx : x = k <;> simp [hx, h]

theorem eq_empty_iff_isEmpty (m : FMap κ ν) : m = ∅ ↔ m.isEmpty = true :=
  ⟨(· ▸ rfl), fun h => FMap.ext fun k => (FMap.isEmpty_iff.mp h k).trans (FMap.get?_empty k).symm⟩

theorem findSome?_eq_none_iff {β : Type} {m : FMap κ ν} {f : κ × ν → Option β} :
    m.l.findSome? f = none ↔ ∀ k v, m.get? k = some v → f (k, v) = none := by
  simp only [List.findSome?_eq_none_iff, Prod.forall, mem_l_iff]

theorem any_eq_true_iff {m : FMap κ ν} {f : κ × ν → Bool} :
    m.l.any f = true ↔ ∃ k v, m.get? k = some v ∧ f (k, v) = true := by
  simp only [List.any_eq_true, Prod.exists, mem_l_iff]

theorem get?_foldl_insert_unless (skip : κ → Prop) [DecidablePred skip] (g : κ → ν)
    (l : List κ) (m : FMap κ ν) (k : κ) :
    (l.foldl (fun m x => if skip x then m else m.insert x (g x)) m).get? k =
      if k ∈ l ∧ ¬ skip k then some (g k) else m.get? k := by
  induction l generalizing m with
  | nil => simp
  | cons a t ih =>
    rewrite [List.foldl_cons, ih]
    by_cases e : k = a
    · subst e; by_cases hs : skip k <;> simp [hs]
    · by_cases hs : skip a <;> simp [hs, e]

example : ((∅ : FMap Nat Nat).insert 3 1 |>.insert 1 2 |>.erase 3).get? 1 = some 2 := by decide +kernel
example : ((∅ : FMap Nat Nat).insert 3 1 |>.insert 1 2) = ((∅ : FMap Nat Nat).insert 1 2 |>.insert 3 1) := by decide +kernel

end FMap

/-- maps are ordered through their entry lists (needed when a clock is itself a map key) -/
instance {κ ν : Type} [LinOrd κ] [LinOrd ν] : LinOrd (FMap κ ν) where
  lt := fun a b => LinOrd.lt a.l b.l
  decLt := fun a b => LinOrd.decLt a.l b.l
  decEq := inferInstance
  irrefl := fun a => LinOrd.irrefl a.l
  trans := fun h1 h2 => LinOrd.trans h1 h2
  tri := fun a b => by
    rcases LinOrd.tri a.l b.l with h | h | h
    · exact Or.inl h
    · refine Or.inr (Or.inl ?_)
      cases a; cases b; simp at h; subst h; rfl
    · exact Or.inr (Or.inr h)

abbrev FSet (κ : Type) [LinOrd κ] := FMap κ Unit
end Crdt
