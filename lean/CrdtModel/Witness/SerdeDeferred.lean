import CrdtModel.Model.Codec
import CrdtModel.Spec.OrswotSys
/-! Known finding F9 (C19): a replica holding a PENDING REMOVE cannot be serialised with serde_json.

`Orswot.deferred : HashMap<VClock<A>, HashSet<M>>` (src/orswot.rs:19) and `Map.deferred` (src/map.rs:38) are maps keyed
by clocks; serde_json only writes maps whose keys are strings or integers and fails with `key must be a string` on the
first entry.  A remove whose context is ahead of the replica's clock is parked in that table (src/orswot.rs:284-291),
so every replica that receives a remove before the adds it covers is – until those adds arrive – a state that
`serde_json::to_string` rejects: it cannot be persisted, restarted or shipped as JSON.  The pinned test vectors
(/repo/test/serialization) only contain `"deferred":{}`.  Changing the representation (e.g. `btreemap_as_vec`) would
change the wire format of those vectors, so this is recorded, not patched.

Script for the real crate (`harness run`):
```
T orswot 2
G 0 o0 rmctx 1 {0:5}
P 0
```
third line: `json=ERR:key_must_be_a_string restore=fail norestore`.  Same for Map: `T map_mvreg 2 / G 0 o0 rmctx 1 {0:9} / P 0`. -/
namespace Crdt.Witness

/-- the remove `rm(1, RmCtx{clock: {0:5}})` as built by `Orswot::rm` -/
def f9Op : OrswotOp Nat Nat := Orswot.rm 1 ⟨(∅ : VClock Nat).apply ⟨0, 5⟩⟩
/-- a fresh replica after applying it: the remove is parked in `deferred` -/
def f9State : Orswot Nat Nat := Orswot.init.apply f9Op

-- a `Bool` test on the text of the error, not `= .error keyMustBeString`, so that `decide +kernel` closes the statements below
def isKeyError : Except String Json → Bool
  | .error e => e == "key must be a string"
  | .ok _ => false

/-- the state after one delivery of one API-generated op (`f9State_reachable`) holds one pending remove and has no
encoding, while the op itself and the empty state raise no such error -/
theorem serde_rejects_pending_remove :
    f9State.deferred.size = 1 ∧ isKeyError (encodeOrswot f9State) = true ∧
    isKeyError ((orswotOpCodec Scalar.nat Scalar.nat).enc f9Op) = false ∧
    isKeyError (encodeOrswot (Orswot.init : Orswot Nat Nat)) = false := by decide +kernel

theorem f9State_reachable : orswotSys.Reach [f9Op] f9State [f9Op] :=
  .apply (s := Orswot.init) (op := f9Op) .init (List.mem_singleton_self _) trivial

/-- the same one level up: a `Map<u64, MVReg>` holding a pending key remove -/
def f9Map : CMap Nat (MVReg Nat Nat) Nat :=
  CMap.apply (V := MVReg Nat Nat) (VOp := MVOp Nat Nat)
    { default := MVReg.init, apply := MVReg.apply, merge := MVReg.merge, resetRemove := MVReg.resetRemove,
      validateOp := fun _ _ => true, validateMerge := fun _ _ => true, eq := MVReg.eq }
    CMap.init (CMap.rm 1 ⟨(∅ : VClock Nat).apply ⟨0, 9⟩⟩)

theorem serde_rejects_pending_key_remove :
    isKeyError ((mapCodec Scalar.nat Scalar.nat (mvregCodec KeyCodec.nat Codec.nat)).enc f9Map) = true := by decide +kernel

end Crdt.Witness
