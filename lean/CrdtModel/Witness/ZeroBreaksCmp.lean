import CrdtModel.Model.VClock
/-! Informational witness for C10: with a stored zero counter (possible only by writing the public `dots`
field or deserialising one – no API call stores one), `partial_cmp` is *not* the pointwise order:
`{1:0}` and `{}` are pointwise equal but compare `Greater`. This is why C10's equality statements carry `NoZero`. -/
namespace Crdt.Witness
def zeroClock : VClock Nat := ⟨(∅ : FMap Nat Nat).insert 1 0⟩
theorem zero_breaks_cmp :
    (∀ x ∈ [0, 1, 2], zeroClock.get x = (∅ : VClock Nat).get x) ∧ zeroClock.partialCmp ∅ = some .gt := by decide +kernel
end Crdt.Witness
