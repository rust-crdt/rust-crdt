import CrdtModel.Model.Orswot
/-! KNOWN DEFECT (C17): `Orswot::add_all([m1, m2], ctx)` (src/orswot.rs:250-255) puts ONE dot on TWO members.
`validate_merge` (src/orswot.rs:114-130) reports `DoubleSpentDot` whenever two *different* members carry the same
dot – so after a perfectly correct use of `add_all` every `validate_merge` involving that state fails, even against
an identical replica and even against itself.

Script for the real crate (`harness run`), all three `VM` lines print `vm=dsd`; with two single `add`s instead
(`G 0 o0 add 0`, `G 0 o1 add 1`) they print `vm=ok`:
```
T orswot 2
G 0 o0 addall [0,1]
D 1 o0
VM 0 1
VM 1 0
VM 0 0
```
-/
namespace Crdt.Witness

def aaOp : OrswotOp Nat Nat := Orswot.addAll [0, 1] ((Orswot.init : Orswot Nat Nat).readCtx.deriveAddCtx 0)
def aaA : Orswot Nat Nat := Orswot.init.apply aaOp
def aaB : Orswot Nat Nat := Orswot.init.apply aaOp

def isDsd (r : Except (DoubleSpentDot Nat Nat) Unit) : Bool :=
  match r with
  | .error _ => true
  | .ok _ => false

/-- replica A `add_all [0,1]`, delivered to B: A and B are equal, yet `validate_merge` rejects the merge
(in both directions, and of A with itself); with two separate `add`s it is accepted -/
theorem validate_merge_flags_correct_add_all :
    aaOp = .add ⟨0, 1⟩ [0, 1] ∧ aaA = aaB ∧
    isDsd (aaA.validateMerge aaB) = true ∧ isDsd (aaB.validateMerge aaA) = true ∧ isDsd (aaA.validateMerge aaA) = true ∧
    (let s1 : Orswot Nat Nat := Orswot.init.apply (Orswot.add 0 ((Orswot.init : Orswot Nat Nat).readCtx.deriveAddCtx 0))
     let s2 := s1.apply (Orswot.add 1 (s1.readCtx.deriveAddCtx 0))
     isDsd (s2.validateMerge s2) = false) := by decide +kernel

end Crdt.Witness
