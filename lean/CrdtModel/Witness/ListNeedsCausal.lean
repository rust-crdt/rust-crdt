import CrdtModel.Spec.ListSys
/-! The delivery discipline of C12 (`ListSpec.Ok`: an actor's ops in order, a delete after the insert it targets; weaker
than causal delivery, which implies it) is REQUIRED: without it two replicas that have been delivered the same set of ops
can differ for ever (`List` has no state merge to repair it).  The two cases violate one clause of it each.

1. **Delete before its insert** (violates the cross-actor dependency).  Replica 0 inserts `7` (op `a`, dot `0.1`);
   replica 1 receives `a` and deletes it (op `b` = `Delete{id(a), dot 1.1}`).  Replica 2 receives `b` FIRST: the dot
   gate lets it through, the clock advances to `{1:1}`, the removal finds nothing; then `a` arrives, is not gated
   (`0.1 > clock.get(0) = 0`) and is inserted – and nothing will ever delete it.  Replicas 1 and 2 have both been
   delivered exactly `{a, b}`: one reads `[]`, the other `[7]`.
2. **An actor's ops out of order** (violates per-actor order).  Replica 0 inserts `7` (`a`, dot `0.1`) and then `8`
   in front of it (`c`, dot `0.2`).  Replica 2 receives `c` first: clock `{0:2}`; then `a` is gated
   (`1 <= clock.get(0) = 2`) and dropped for ever.  Delivered `{a, c}` at both: `[8,7]` versus `[8]`.

Script for the real crate (`witness/C12-list-needs-causal.txt`, `harness run`; model and crate print the same lines:
`eq=false`, `ro=ok pairs=3` – the order of the COMMON elements is still consistent – and `conv=FAIL:r0:r2` in both cases):
```
T list 3
G 0 a ins 0 7
D 1 a
G 1 b del 0
D 2 b
D 2 a
D 0 b
EQ 1 2
RO
E
T list 3
G 0 a ins 0 7
G 0 c ins 0 8
D 2 c
D 2 a
D 1 a
D 1 c
EQ 1 2
RO
E
```
-/
namespace Crdt.Witness
open ListSpec

def lsNew : ListCrdt Nat Nat := ListCrdt.new
/-- replica 0: `insert_index(0, 7, actor 0)` -/
def lsA : ListOp Nat Nat := lsNew.insertIndex 0 7 0
/-- a new replica that has applied `a`: replica 1 after receiving it, and equally replica 0 after generating it -/
def lsR1a : ListCrdt Nat Nat := lsNew.apply lsA
/-- replica 1: `delete_index(0, actor 1)` (exists: the list has one element) -/
def lsB : ListOp Nat Nat := (lsR1a.deleteIndex 0 1).getD lsA
/-- replica 0: `insert_index(0, 8, actor 0)` after its first insert -/
def lsC : ListOp Nat Nat := lsR1a.insertIndex 0 8 0

/-- causal order (`a` then `b`) versus delete-first (`b` then `a`): same delivered set, different states for ever;
the log is well-formed, only the discipline is violated (`b` is not admissible before `a`) -/
theorem list_delete_before_insert_diverges :
    lsA = .insert ⟨[(0, (0, 1))]⟩ 7 ∧ lsB = .delete ⟨[(0, (0, 1))]⟩ ⟨1, 1⟩ ∧
    wfB [lsA, lsB] = true ∧ okB [lsA, lsB] [] lsB = false ∧
    ((lsNew.apply lsA).apply lsB).read = [] ∧ ((lsNew.apply lsB).apply lsA).read = [7] ∧
    (lsNew.apply lsA).apply lsB ≠ (lsNew.apply lsB).apply lsA ∧
    -- both clocks are `{0:1,1:1}`: nothing tells the two replicas apart except the sequence
    ((lsNew.apply lsA).apply lsB).clock = ((lsNew.apply lsB).apply lsA).clock := by decide +kernel

/-- an actor's second op before its first: the first is gated and lost -/
theorem list_actor_order_violation_diverges :
    wfB [lsA, lsC] = true ∧ okB [lsA, lsC] [] lsC = false ∧
    ((lsNew.apply lsA).apply lsC).read = [8, 7] ∧ ((lsNew.apply lsC).apply lsA).read = [8] ∧
    ((lsNew.apply lsC).apply lsA).clock = ((lsNew.apply lsA).apply lsC).clock := by decide +kernel

/-- the propositional reading of the boolean facts of the first witness (those of the second read the same way) -/
theorem list_delete_before_insert_not_ok : LogWF [lsA, lsB] ∧ ¬ Ok [lsA, lsB] [] lsB :=
  ⟨(wfB_iff _).mp list_delete_before_insert_diverges.2.2.1,
   fun h => Bool.false_ne_true (list_delete_before_insert_diverges.2.2.2.1.symm.trans ((okB_iff _ _ _).mpr h))⟩

end Crdt.Witness
