import CrdtModel.Model.MVReg
/-! Informational witnesses for C06: both clauses of the log well-formedness `MVWF` are needed.

* *one value per clock*: two puts with the SAME clock and different values (the "TAI" comment at src/mvreg.rs:157-160;
  what happens when one actor id writes at two replicas) do not commute: under `apply` the later arrival wins, under
  `merge` the receiver's copy.
* *no stored zero*: `{1:0,2:1}` and `{2:1}` are pointwise equal but structurally different; each compares `Greater` than
  the other, so the second arrival is dropped (`existing_clock > &clock`) and the arrival order decides. -/
namespace Crdt.Witness

def dupClock : VClock Nat := (∅ : VClock Nat).apply ⟨1, 1⟩
def dupA : MVOp Nat Nat := ⟨dupClock, 5⟩
def dupB : MVOp Nat Nat := ⟨dupClock, 7⟩

theorem mvreg_equal_clocks_do_not_commute :
    ((MVReg.init.apply dupA).apply dupB).read.val = [7] ∧ ((MVReg.init.apply dupB).apply dupA).read.val = [5] ∧
    ((MVReg.init.apply dupA).merge (MVReg.init.apply dupB)).read.val = [5] ∧
    ((MVReg.init.apply dupB).merge (MVReg.init.apply dupA)).read.val = [7] := by decide +kernel

def zeroA : MVOp Nat Nat := ⟨⟨((∅ : FMap Nat Nat).insert 1 0).insert 2 1⟩, 5⟩
def zeroB : MVOp Nat Nat := ⟨⟨(∅ : FMap Nat Nat).insert 2 1⟩, 7⟩

theorem mvreg_stored_zero_breaks_commutativity :
    (∀ x ∈ [0, 1, 2, 3], zeroA.clock.get x = zeroB.clock.get x) ∧
    ((MVReg.init.apply zeroA).apply zeroB).read.val = [5] ∧ ((MVReg.init.apply zeroB).apply zeroA).read.val = [7] := by
  decide +kernel

end Crdt.Witness
