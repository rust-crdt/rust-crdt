import CrdtModel.Model.MVReg
/-! Known edge of C06 / C20: `reset_remove` (src/mvreg.rs:90-102) subtracts a clock from every stored clock; two
different entries can become *identical* (same remaining clock, same value), after which the hand-written
`PartialEq` (src/mvreg.rs:63-85) panics at `assert_eq!(num_found, 1)` – even for `r == r`.

History (actors = replicas 0,1,2; every put built through `write(v, read_ctx().derive_add_ctx(actor))`):
replica 2 writes 5 (`{2:1}`); replicas 0 and 1 receive it and concurrently write 7 (`{0:1,2:1}`, `{1:1,2:1}`);
replica 0 receives replica 1's write and holds both; `reset_remove({0:1,1:1})` leaves `[({2:1},7), ({2:1},7)]`.

Script for the real crate (`harness run`):
```
T mvreg 3
G 2 o0 write 5
D 0 o0
D 1 o0
G 0 o1 write 7
G 1 o2 write 7
D 0 o2
EQ 0 0
RR 0 {0:1,1:1}
EQ 0 0
```
on the crate it prints `eq=true` before and `panic` after the `RR` line, as the model does below. -/
namespace Crdt.Witness

def mvW0 : MVOp Nat Nat := (MVReg.init : MVReg Nat Nat).writeBy 2 5
def mvBase : MVReg Nat Nat := MVReg.init.apply mvW0
def mvW1 : MVOp Nat Nat := mvBase.writeBy 0 7
def mvW2 : MVOp Nat Nat := mvBase.writeBy 1 7
/-- replica 0 after its own write and the delivery of replica 1's write -/
def mvR0 : MVReg Nat Nat := (mvBase.apply mvW1).apply mvW2
def mvRmClock : VClock Nat := ((∅ : VClock Nat).apply ⟨0, 1⟩).apply ⟨1, 1⟩
def mvAfter : MVReg Nat Nat := mvR0.resetRemove mvRmClock
def clk21 : VClock Nat := (∅ : VClock Nat).apply ⟨2, 1⟩

/-- before `reset_remove`: two distinct entries, `==` is fine; after: the same entry twice, `==` panics (`none`) -/
theorem mvreg_eq_panics_after_reset_remove :
    mvR0.read.val = [7, 7] ∧ mvR0.eq mvR0 = some true ∧
    mvAfter.vals = [(clk21, 7), (clk21, 7)] ∧ mvAfter.eq mvAfter = none := by decide +kernel

end Crdt.Witness
