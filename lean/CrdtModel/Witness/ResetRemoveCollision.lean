import CrdtModel.Model.Orswot
/-! For the record (C18; finding F11 of DESIGN.md §8; fixed in /repo by c462df9): before the fix `Orswot::reset_remove` rebuilt the
deferred table with `filter_map(...).collect()` into a `HashMap`, so two pending removes whose contexts become EQUAL
once the given clock is subtracted overwrote each other – one pending remove (here: of member 3, or of member 4,
depending on the `HashMap` iteration order) was silently lost and the removed member could reappear later.
`resetRemoveOld` reproduces the old `collect()` semantics (last insert wins; the iteration order is a parameter since
`HashMap` order is unspecified); `Orswot.resetRemove` is the model of the current code (member sets united).

Script for the real crate (`harness run`; with the fixed crate the last line shows `deferred=[{1:1}:[3,4]]`, the
pre-fix crate printed only one of the two members):
```
T orswot 2
G 0 o0 rmctx 3 {0:5,1:1}
G 0 o1 rmctx 4 {0:6,1:1}
RR 0 {0:7}
```
-/
namespace Crdt.Witness

/-- pre-fix `reset_remove` (c462df9 replaced it by the loop at src/orswot.rs:217-226): `collect()` = insert in iteration order,
a later pair with the same key replaces the earlier one.  `rev` selects the iteration order. -/
def resetRemoveOld (s : Orswot Nat Nat) (c : VClock Nat) (rev : Bool) : Orswot Nat Nat :=
  { s.resetRemove c with
    deferred := (if rev then s.deferred.l.reverse else s.deferred.l).foldl (fun acc p =>
      let k := p.1.resetRemove c
      if k.isEmpty then acc else acc.insert k p.2) ∅ }

def ctx5 : VClock Nat := ((∅ : VClock Nat).apply ⟨0, 5⟩).apply ⟨1, 1⟩
def ctx6 : VClock Nat := ((∅ : VClock Nat).apply ⟨0, 6⟩).apply ⟨1, 1⟩
def ctx7 : VClock Nat := (∅ : VClock Nat).apply ⟨0, 7⟩
def ctx1 : VClock Nat := (∅ : VClock Nat).apply ⟨1, 1⟩
/-- two pending removes (contexts from the future): member 3 under `{0:5,1:1}`, member 4 under `{0:6,1:1}` -/
def rrBefore : Orswot Nat Nat := (Orswot.init.apply (.rm ctx5 [3])).apply (.rm ctx6 [4])

def members (s : Orswot Nat Nat) (k : VClock Nat) : List Nat := ((s.deferred.get? k).map (fun S => S.l.map (·.1))).getD []

/-- both contexts become `{1:1}` after subtracting `{0:7}`: the current code keeps both members pending,
the old code kept only one (whichever came last in iteration order) -/
theorem reset_remove_collision_old_loses_pending_remove :
    members rrBefore ctx5 = [3] ∧ members rrBefore ctx6 = [4] ∧
    ctx5.resetRemove ctx7 = ctx1 ∧ ctx6.resetRemove ctx7 = ctx1 ∧
    members (rrBefore.resetRemove ctx7) ctx1 = [3, 4] ∧
    members (resetRemoveOld rrBefore ctx7 false) ctx1 = [4] ∧
    members (resetRemoveOld rrBefore ctx7 true) ctx1 = [3] := by decide +kernel

end Crdt.Witness
