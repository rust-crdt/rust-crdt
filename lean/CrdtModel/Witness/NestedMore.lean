import CrdtModel.Proofs.MapNested
/-! Kernel-checked witnesses that the parts of C05 / C03 / C09 NOT claimed for Map nested contents are false of the model – as they
are of the crate (known findings): the restrictions of the regions proved in Props/C05Nested.lean and Props/C05NestedOrswot.lean are
necessary. -/
namespace Crdt.Witness
open CMap

namespace MVRegNested
/-! The global nested statement of C05 is false in the model for `Map<_, MVReg>` under causal, op-only delivery
(for `Map<_, Orswot>`: `C05.Example.outside_region_diverges`). -/
abbrev P := MapOp Nat (MVOp Nat Nat) Nat
abbrev mops : ValOps (MVReg Nat Nat) (MVOp Nat Nat) Nat := MVReg.valOps

def s0 : CMap Nat (MVReg Nat Nat) Nat := CMap.init
-- actor 0 writes under key 9 (another key)
def o1 : P := CMap.update mops s0 9 (s0.readCtx.deriveAddCtx 0) (fun v ctx => v.write 1 ctx)
def sA := CMap.apply mops s0 o1
-- actor 1 (has seen o1) writes 5 under key 0: the Put carries the WHOLE map clock {0:1,1:1}
def o2 : P := CMap.update mops sA 0 (sA.readCtx.deriveAddCtx 1) (fun v ctx => v.write 5 ctx)
-- actor 2 (has seen o1) concurrently writes 6 under key 0
def o3 : P := CMap.update mops sA 0 (sA.readCtx.deriveAddCtx 2) (fun v ctx => v.write 6 ctx)
def sB := CMap.apply mops sA o2
-- actor 1 removes key 0 having seen o1, o2 only
def o4 : P := CMap.rm 0 (sB.get 0).deriveRmCtx

def r1 := [o1, o2, o3, o4].foldl (CMap.apply mops) CMap.init   -- causal
def r2 := [o1, o2, o4, o3].foldl (CMap.apply mops) CMap.init   -- causal too

theorem mvreg_nested_diverges :
    (r1.get 0).val.map (fun v => v.read.val) = some [5, 6] ∧ (r2.get 0).val.map (fun v => v.read.val) = some [6] := by
  decide +kernel
end MVRegNested

namespace OrswotMerge
/-! The nested-Orswot READ convergence (`C05.nested_orswot_reads_converge`, proved for the causal op-only region) fails in the
model once a state merge is used: the restriction to op-only delivery is necessary. -/
abbrev Q := MapOp Nat (OrswotOp Nat Nat) Nat
abbrev oo : ValOps (Orswot Nat Nat) (OrswotOp Nat Nat) Nat := Orswot.valOps

def o0 : Q := .up ⟨0, 1⟩ 0 (.add ⟨0, 1⟩ [0])          -- actor 0 adds member 0 under key 0
def o2 : Q := .up ⟨0, 2⟩ 0 (.add ⟨0, 2⟩ [1])          -- actor 0 adds member 1 under key 0
def o1 : Q := .rm (VClock.ofDot ⟨0, 1⟩) [0]           -- a replica that saw o0 only removes key 0

def a  := [o0, o2].foldl (CMap.apply oo) CMap.init     -- replica A
def b  := [o0, o1].foldl (CMap.apply oo) CMap.init     -- replica B
def viaMerge := CMap.merge oo b a                       -- B merges A's state          (knows o0,o1,o2)
def viaOps   := CMap.apply oo b o2                      -- B is delivered o2 (causal)   (knows o0,o1,o2)

theorem merge_breaks_nested_reads :
    (viaMerge.get 0).val.map (fun v => v.read.val) = some [0, 1] ∧
    (viaOps.get 0).val.map (fun v => v.read.val) = some [1] := by decide +kernel
end OrswotMerge

namespace DupRm
/-! C09 ("a duplicate delivery changes nothing observable") is stated for `Map` at key level only (`C09.map_keys_dup_noop`,
`C09.map_keys_stale_noop`, Props/Addenda.lean).  For the whole state it is FALSE in the model for `Map<_, MVReg>` already under
causal delivery: re-delivering a KEY REMOVE that the replica has applied changes the nested
register's stored clock (hence `get(k).val.read().add_clock` and `==`). -/
abbrev P := MapOp Nat (MVOp Nat Nat) Nat
abbrev mops : ValOps (MVReg Nat Nat) (MVOp Nat Nat) Nat := MVReg.valOps

def s0 : CMap Nat (MVReg Nat Nat) Nat := CMap.init
-- actor 1 writes 5 under key 0
def u1 : P := CMap.update mops s0 0 (s0.readCtx.deriveAddCtx 1) (fun v ctx => v.write 5 ctx)
def s1 := CMap.apply mops s0 u1
-- actor 1 removes key 0 (context read with `get`)
def r1 : P := CMap.rm 0 (s1.get 0).deriveRmCtx
def s2 := CMap.apply mops s1 r1
-- actor 2, which has applied u1 and r1, writes 6 under key 0 (the Put carries the whole map clock {1:1, 2:1})
def u2 : P := CMap.update mops s2 0 (s2.readCtx.deriveAddCtx 2) (fun v ctx => v.write 6 ctx)
def s3 := CMap.apply mops s2 u2
-- the key remove r1 is delivered AGAIN
def s4 := CMap.apply mops s3 r1

def nestedClock (s : CMap Nat (MVReg Nat Nat) Nat) : Option (List (Nat × Nat)) :=
  (s.get 0).val.map (fun v => v.read.addClock.dots.l)

theorem dup_key_remove_changes_state :
    s4 ≠ s3 ∧ nestedClock s3 = some [(1, 1), (2, 1)] ∧ nestedClock s4 = some [(2, 1)] ∧
    (s3.get 0).val.map (fun v => v.read.val) = (s4.get 0).val.map (fun v => v.read.val) := by
  refine ⟨?_, by decide +kernel⟩
  intro h
  have : nestedClock s4 = nestedClock s3 := by rw [h]
  revert this; decide +kernel
end DupRm

namespace Depth2Orswot
/-! Depth 2: `Map<Nat, Map<Nat, Orswot<Nat>>>`, the witness Props/C05Nested.lean cites for "a nested `Map` has no representation
system of its own": the 3-op Orswot witness, one level deeper, with NO OUTER key remove, i.e. INSIDE the region `ReachUp` of
C05Nested (all three ops are outer updates). -/
abbrev IOp := MapOp Nat (OrswotOp Nat Nat) Nat          -- inner map op
abbrev OOp := MapOp Nat IOp Nat                          -- outer map op
abbrev iops : ValOps (CMap Nat (Orswot Nat Nat) Nat) IOp Nat := CMap.valOps Orswot.valOps id
abbrev V2 := CMap Nat (CMap Nat (Orswot Nat Nat) Nat) Nat

def c01 : VClock Nat := VClock.ofDot ⟨0, 1⟩
/-- actor 0: under outer key 0, inner key 0, add member 0 -/
def o0 : OOp := .up ⟨0, 1⟩ 0 (.up ⟨0, 1⟩ 0 (.add ⟨0, 1⟩ [0]))
/-- actor 0 (has seen o0): under outer key 0, remove INNER key 0 (an outer UPDATE) -/
def o1 : OOp := .up ⟨0, 2⟩ 0 (.rm c01 [0])
/-- actor 1 (has seen o0): under outer key 0, inner key 0, remove member 0 -/
def o5 : OOp := .up ⟨1, 1⟩ 0 (.up ⟨1, 1⟩ 0 (.rm c01 [0]))

def U : List OOp := [o0, o1, o5]
def sA : V2 := [o0, o1, o5].foldl (CMap.apply iops) CMap.init
def sB : V2 := [o0, o5, o1].foldl (CMap.apply iops) CMap.init

theorem du : DotsUnique U := dotsUnique_of_nodup (by decide)

theorem wfU : OrswotSpec.LogWF (keyLog U) := .of_nodup (by decide) (by decide)

/-- both delivery orders are derivations of the region `ReachUp` (op-only, no outer key remove, per-actor FIFO) -/
theorem reachA : ReachUp iops U sA [o5, o1, o0] := by
  -- unfold the fold syntactically first: unifying `sA` with `CMap.apply iops _ _` would evaluate the states
  simp only [sA, List.foldl_cons, List.foldl_nil]
  exact ReachUp.init
    |>.step du (by simp [U] : o0 ∈ U) (by decide)
    |>.step du (by simp [U] : o1 ∈ U) (by decide)
    |>.step du (by simp [U] : o5 ∈ U) (by decide)

theorem reachB : ReachUp iops U sB [o1, o5, o0] := by
  simp only [sB, List.foldl_cons, List.foldl_nil]
  exact ReachUp.init
    |>.step du (by simp [U] : o0 ∈ U) (by decide)
    |>.step du (by simp [U] : o5 ∈ U) (by decide)
    |>.step du (by simp [U] : o1 ∈ U) (by decide)

/-- same knowledge, both in the region, all hypotheses of `C05.nested_converge` other than the `RepSys` ones hold –
and the nested (inner-map) values under outer key 0 DIFFER: the Orswot under inner key 0 differs -/
theorem depth2_diverges_inside_region :
    (∀ x, x ∈ [o5, o1, o0] ↔ x ∈ [o1, o5, o0]) ∧
    (sA.get 0).val.map (fun m => (m.get 0).val) ≠ (sB.get 0).val.map (fun m => (m.get 0).val) :=
  ⟨fun _ => (List.Perm.swap o1 o5 [o0]).mem_iff, by decide +kernel⟩

theorem hence_vals_differ : (sA.get 0).val ≠ (sB.get 0).val :=
  fun h => depth2_diverges_inside_region.2 (by rw [h])

#eval (sA.get 0).val.map (fun m => (m.get 0).val.map (fun v => (v.read.val, v.deferred.size, v.clock.dots.l)))
#eval (sB.get 0).val.map (fun m => (m.get 0).val.map (fun v => (v.read.val, v.deferred.size, v.clock.dots.l)))
end Depth2Orswot

namespace Depth2MVReg
/-! Depth 2, READS: `Map<Nat, Map<Nat, MVReg<Nat>>>`, every op generated through the API (`CMap.update` / `CMap.rm` with
`read_ctx().derive_add_ctx` / `get(k).derive_rm_ctx()`), causal delivery, op-only, NO OUTER key remove
(= inside the region `ReachUp` of C05Nested: all four ops are outer updates, per-actor FIFO holds in both orders).
Same four ops at both replicas – the inner register READS differ. -/
abbrev IOp := MapOp Nat (MVOp Nat Nat) Nat
abbrev OOp := MapOp Nat IOp Nat
abbrev mops : ValOps (MVReg Nat Nat) (MVOp Nat Nat) Nat := MVReg.valOps
abbrev iops : ValOps (CMap Nat (MVReg Nat Nat) Nat) IOp Nat := CMap.valOps mops id
abbrev V2 := CMap Nat (CMap Nat (MVReg Nat Nat) Nat) Nat

/-- `outer.update(0, outer.read_ctx().derive_add_ctx(a), |inner, ctx| inner.update(ik, ctx, |reg, ctx| reg.write(v, ctx)))` -/
def wr (s : V2) (a ik v : Nat) : OOp :=
  CMap.update iops s 0 (s.readCtx.deriveAddCtx a) (fun inner ctx => CMap.update mops inner ik ctx (fun reg ctx => reg.write v ctx))
/-- `outer.update(0, ctx, |inner, _| inner.rm(ik, inner.get(&ik).derive_rm_ctx()))` -/
def rmInner (s : V2) (a ik : Nat) : OOp :=
  CMap.update iops s 0 (s.readCtx.deriveAddCtx a) (fun inner _ => CMap.rm ik (inner.get ik).deriveRmCtx)

def s0 : V2 := CMap.init
def o1 : OOp := wr s0 0 9 1                 -- actor 0 writes 1 under inner key 9
def sA := CMap.apply iops s0 o1
def o2 : OOp := wr sA 1 0 5                 -- actor 1 (has seen o1) writes 5 under inner key 0
def o3 : OOp := wr sA 2 0 6                 -- actor 2 (has seen o1) concurrently writes 6 under inner key 0
def sB := CMap.apply iops sA o2
def o4 : OOp := rmInner sB 1 0              -- actor 1 (has seen o1,o2) removes inner key 0

def r1 : V2 := [o1, o2, o3, o4].foldl (CMap.apply iops) CMap.init   -- causal
def r2 : V2 := [o1, o2, o4, o3].foldl (CMap.apply iops) CMap.init   -- causal too

def innerRead (s : V2) : Option (Option (List Nat)) :=
  (s.get 0).val.map (fun m => (m.get 0).val.map (fun v => v.read.val))

/-- the four ops are outer UPDATES with dots 0:1, 1:1, 2:1, 1:2 (so both orders respect per-actor FIFO and contain no outer remove) -/
example : [o1, o2, o3, o4].map (fun o => match o with | .up d k _ => some (d.actor, d.counter, k) | .rm _ _ => none) =
    [some (0,1,0), some (1,1,0), some (2,1,0), some (1,2,0)] := by decide +kernel

theorem depth2_mvreg_reads_diverge : innerRead r1 = some (some [5, 6]) ∧ innerRead r2 = some (some [6]) := by decide +kernel
end Depth2MVReg

end Crdt.Witness
