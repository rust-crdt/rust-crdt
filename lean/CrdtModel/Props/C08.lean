import CrdtModel.Props.C04
import CrdtModel.Spec.Lattice
/-!
# C08 — overtaking removes are deferred, never lost: per-actor delivery order suffices

The Orswot representation theorem is proved under the discipline `OrswotSpec.Ok`: only an actor's **adds** must
arrive in issue order; a remove may arrive before anything it observed (its context may even lie in the future of the
replica).  Hence every per-actor-FIFO schedule – and every causal one – is covered by the same theorem, and the result
is the state determined by the knowledge set: exactly what causal delivery of the same ops produces.
Counters, GSet and the registers need no order at all: their systems have `Ok := True` (`order_free_*`).  So have
`mvregSys`, `glistSys` and `merkleSys`; that is read off their definitions and not restated here.
-/
namespace Crdt.C08
open RepSys OrswotSpec
section orswot
variable {M A : Type} [LinOrd M] [LinOrd A] {U K K' : List (OrswotOp M A)} {s s' : Orswot M A}

/-- whatever admissible order (per-actor on adds) two replicas used, equal knowledge gives equal state: a FIFO-delivered
replica equals a causally-delivered one -/
theorem fifo_equals_causal (wf : LogWF U) (h : orswotSys.Reach U s K) (h' : orswotSys.Reach U s' K')
    (e : ∀ o, o ∈ K ↔ o ∈ K') : s = s' := converge (R := orswotSys) wf h h' e

/-- the replica remembers exactly the removes whose context it does not yet dominate -/
theorem deferred_iff (wf : LogWF U) (h : orswotSys.Reach U s K) (c : VClock A) :
    (s.deferred.get? c).isSome = true ↔ ((∃ ms, OrswotOp.rm c ms ∈ K) ∧ ∃ a, c.get a > clk K a) :=
  (C04.rep wf h).def_some c

/-- … with exactly the members those removes name -/
theorem deferred_members (wf : LogWF U) (h : orswotSys.Reach U s K) (c : VClock A) (S : FSet M)
    (hS : s.deferred.get? c = some S) (m : M) :
    S.contains m = true ↔ ∃ ms, OrswotOp.rm c ms ∈ K ∧ m ∈ ms := (C04.rep wf h).def_mem c S hS m

/-- an overtaking remove takes effect as soon as the add it observed arrives: once both are known the add is not a
witness, in whichever order they came -/
theorem overtaking_remove_effective (wf : LogWF U) (h : orswotSys.Reach U s K) {c : VClock A} {ms : List M} {m : M}
    (hrm : OrswotOp.rm c ms ∈ K) (hm : m ∈ ms) (a : A) (hcov : Mx K m a ≤ c.get a) :
    (s.contains m).rmClock.get a = 0 :=
  (C04.contains_rm_clock wf h m a).trans (Ev_of_le (Nat.le_trans hcov (le_θ hrm hm a)))

/-- the pending remove travels inside merged states -/
theorem deferred_survives_merge (wf : LogWF U) (h : orswotSys.Reach U s K) (h' : orswotSys.Reach U s' K')
    {c : VClock A} {ms : List M} (hrm : OrswotOp.rm c ms ∈ K') (a : A) (hp : c.get a > max (clk K a) (clk K' a)) :
    ((s.merge s').deferred.get? c).isSome = true := by
  have r := (reach_rep (R := orswotSys) wf (Reach.merge h h')).2
  exact (r.def_some c).mpr ⟨⟨ms, List.mem_append.mpr (Or.inr hrm)⟩, ⟨a, by rewrite [clk_append]; exact hp⟩⟩
end orswot

/-- order-free types: no delivery constraint whatsoever is assumed by their representation theorems -/
theorem order_free_gcounter {α : Type} [LinOrd α] (U K : List (Dot α)) (op : Dot α) : gcounterSys.Ok U K op := trivial
theorem order_free_pncounter {α : Type} [LinOrd α] (U K : List (PNOp α)) (op : PNOp α) : pncounterSys.Ok U K op := trivial
theorem order_free_gset {α : Type} [LinOrd α] (U K : List α) (op : α) : gsetSys.Ok U K op := trivial
theorem order_free_maxreg {α : Type} [LinOrd α] (v0 : α) (U K : List α) (op : α) : (maxregSys v0).Ok U K op := trivial
theorem order_free_minreg {α : Type} [LinOrd α] (v0 : α) (U K : List α) (op : α) : (minregSys v0).Ok U K op := trivial
theorem order_free_lwwreg {ν α : Type} [DecidableEq ν] [LinOrd α] (r0 : LWWReg ν α) (U K : List (LWWReg ν α))
    (op : LWWReg ν α) : (lwwSys r0).Ok U K op := trivial

end Crdt.C08
