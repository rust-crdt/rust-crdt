import CrdtModel.Spec.MapKeys
import CrdtModel.Props.C04
/-!
# C05 — Map keys are observed-remove; removing a key resets only what was seen

**Key level (full statement, every value type, every nesting depth).**  `CMap.Reach ops U s L`: `s` is the state of any
replica/snapshot in any history over the update universe `U` in which each actor's *updates* arrive in issue order (key removes
in any order, before or after what they observed; duplicates; merges of live/stale states); `ops : ValOps V VOp A` is an
ARBITRARY value type (MVReg, Orswot, a nested Map built with the same functions, …).  The theorems say which keys are
present and what `get(k)`'s remove context is, as a function of the set of ops learned.

**Nested contents.**  The local reset semantics of one key-remove step is proved (`rm_step_*`).  The global statement
("after a key remove, everything the remover had seen under that key is gone at every replica, the rest stays", and
equal nested values/contexts for equal knowledge) is FALSE of the crate for all three nestings (witness scripts
`witness/map_*_causal_diverge.txt`, replayed on every run; known_findings.json); it is kept here as the full statement:

  `∀ s s' L L', Reach ops U s L → Reach ops U s' L' → (∀ o, o ∈ L ↔ o ∈ L') → (s.get k).val = (s'.get k).val`   -- NOT provable (false)

It is proved on two regions of histories: op-only histories without key removes, for value types with a representation system of
their own (Props/C05Nested.lean), and
`Map<K, Orswot>` under causal op-only delivery, key removes included, where the nested READS converge (Props/C05NestedOrswot.lean).
-/
namespace Crdt.C05
open OrswotSpec CMap
variable {K V VOp A : Type} [LinOrd K] [LinOrd A] {ops : ValOps V VOp A} {U L : List (MapOp K VOp A)} {s : CMap K V A}

/-- **key presence**: `k` is present iff the replica knows an update of `k` whose dot no known remove of `k` covers -/
theorem key_present_iff (wf : LogWF (keyLog U)) (h : CMap.Reach ops U s L) (k : K) :
    (s.get k).val.isSome = true ↔
      ∃ d o, MapOp.up d k o ∈ L ∧ 0 < d.counter ∧
        ∀ c ks, MapOp.rm c ks ∈ L → k ∈ ks → c.get d.actor < d.counter := by
  rewrite [get_val_isSome]
  refine ((C04.contains_val (s := s.keysView) k).trans (C04.member_iff_of_rep (keys_rep wf h).2 k)).trans ?_
  constructor
  · rintro ⟨d, ms, hin, hk, hpos, hcov⟩
    obtain ⟨k', o, rfl, ho⟩ := mem_keyLog_add.mp hin
    cases List.mem_singleton.mp hk
    exact ⟨d, o, ho, hpos, fun c ks hrm hks => hcov c ks (mem_keyLog_rm.mpr hrm) hks⟩
  · rintro ⟨d, o, ho, hpos, hcov⟩
    exact ⟨d, [k], up_mem_keyLog ho, List.mem_singleton.mpr rfl, hpos,
      fun c ks hrm hks => hcov c ks (mem_keyLog_rm.mp hrm) hks⟩

/-- `get(k).rm_clock` is exactly the surviving update witnesses of `k`: per actor, the newest known update of `k` by that
actor unless a known remove of `k` covers it -/
theorem get_rm_clock (wf : LogWF (keyLog U)) (h : CMap.Reach ops U s L) (k : K) (a : A) :
    (s.get k).rmClock.get a = E (keyLog L) k a := by
  rewrite [← entryGet_keysView]; exact (keys_rep wf h).2.entries k a

/-- every read entry point carries the map clock as add context, and it is the per-actor newest known update -/
theorem add_clock_entry_points (wf : LogWF (keyLog U)) (h : CMap.Reach ops U s L) (k : K) (a : A) :
    (s.get k).addClock = s.clock ∧ s.len.addClock = s.clock ∧ s.isEmpty.addClock = s.clock ∧ s.readCtx.addClock = s.clock ∧
    (∀ r ∈ s.keys, r.addClock = s.clock) ∧ (∀ r ∈ s.values, r.addClock = s.clock) ∧ (∀ r ∈ s.iter, r.addClock = s.clock) ∧
    s.clock.get a = clk (keyLog L) a :=
  -- `keys`, `values`, `iter` map the entries to read contexts built with `s.clock`
  ⟨rfl, rfl, rfl, rfl, List.forall_mem_map.mpr fun _ _ => rfl, List.forall_mem_map.mpr fun _ _ => rfl,
    List.forall_mem_map.mpr fun _ _ => rfl, h.clock wf a⟩

/-- `keys()` lists only present keys, each with the same remove context as `get` (that it lists every present key:
`C05.keys_complete`, Props/Addenda.lean) -/
theorem keys_entry (r : ReadCtx K A) (hr : r ∈ s.keys) : (s.get r.val).val.isSome = true ∧ r.rmClock = (s.get r.val).rmClock := by
  obtain ⟨p, hp, rfl⟩ := List.mem_map.mp hr
  simp [CMap.get, FMap.mem_l_iff.mp hp]

theorem len_is_number_of_entries : s.len.val = s.entries.size ∧ (s.isEmpty.val = true ↔ s.entries.size = 0) :=
  ⟨rfl, List.isEmpty_iff.trans List.length_eq_zero_iff.symm⟩

/-- **an update not covered by a remove of its key keeps the key present (update wins)** -/
theorem update_wins (wf : LogWF (keyLog U)) (h : CMap.Reach ops U s L) {d : Dot A} {k : K} {o : VOp}
    (hin : MapOp.up d k o ∈ L) (hpos : 0 < d.counter)
    (hcov : ∀ c ks, MapOp.rm c ks ∈ L → k ∈ ks → c.get d.actor < d.counter) : (s.get k).val.isSome = true :=
  (key_present_iff wf h k).mpr ⟨d, o, hin, hpos, hcov⟩

/-- a key all of whose known updates are covered by known removes of it is absent (no resurrection) -/
theorem removed_if_all_covered (wf : LogWF (keyLog U)) (h : CMap.Reach ops U s L) (k : K)
    (hall : ∀ d o, MapOp.up d k o ∈ L → 0 < d.counter →
      ∃ c ks, MapOp.rm c ks ∈ L ∧ k ∈ ks ∧ d.counter ≤ c.get d.actor) : (s.get k).val = none := by
  refine Option.not_isSome_iff_eq_none.mp fun hs => ?_
  obtain ⟨d, o, hin, hpos, hcov⟩ := (key_present_iff wf h k).mp hs
  obtain ⟨c, ks, hrm, hk, hle⟩ := hall d o hin hpos
  exact Nat.lt_irrefl _ (Nat.lt_of_lt_of_le (hcov c ks hrm hk) hle)

/-- pending key removes are remembered exactly (and this travels through merges: it is part of the invariant) -/
theorem deferred_iff (wf : LogWF (keyLog U)) (h : CMap.Reach ops U s L) (c : VClock A) :
    (s.deferred.get? c).isSome = true ↔ ((∃ ks, MapOp.rm c ks ∈ L) ∧ ∃ a, c.get a > clk (keyLog L) a) := by
  rewrite [← keysView_deferred, (keys_rep wf h).2.def_some c]
  simp only [mem_keyLog_rm, pending]

/-- equal delivered sets ⇒ equal key-level state: same keys, same contexts, same pending removes, same clock -/
theorem keys_converge {s' : CMap K V A} {L' : List (MapOp K VOp A)} (wf : LogWF (keyLog U)) (h : CMap.Reach ops U s L)
    (h' : CMap.Reach ops U s' L') (e : ∀ o, o ∈ L ↔ o ∈ L') :
    s.clock = s'.clock ∧ s.deferred = s'.deferred ∧ ∀ k, (s.get k).val.isSome = (s'.get k).val.isSome ∧ (s.get k).rmClock = (s'.get k).rmClock := by
  have hk := CMap.keys_converge wf h h' (mem_keyLog_congr e)
  exact ⟨congrArg Orswot.clock hk, congrArg Orswot.deferred hk,
    fun k => ⟨by rw [get_val_isSome, get_val_isSome, hk], by rw [get_rmClock, get_rmClock, hk]⟩⟩

/-- the key level of every derivable Map state IS the executable Orswot specification of the key-level knowledge -/
theorem keys_eq_spec (wf : LogWF (keyLog U)) (h : CMap.Reach ops U s L) : s.keysView = specState (keyLog L) :=
  eq_specState (keys_rep wf h).2

/-! ## nested contents: local reset semantics of one key-remove step
(the suffix `_partial`, here and in Props/C16Map.lean, marks a theorem that covers only a part of its English property) -/

/-- at the replica applying a key remove with context `c`: the entry is dropped iff its clock is covered by `c`; otherwise
its clock is reduced by `c` and the nested value is reset with `c` (`V::reset_remove(c)`, which by C18 forgets exactly
what `c` covers) -/
theorem rm_step_value_partial (c : VClock A) (e : FMap K (MapEntry V A)) (k : K) (en : MapEntry V A)
    (hg : e.get? k = some en) :
    (rmKey ops c e k).get? k =
      if (en.clock.resetRemove c).isEmpty then none else some ⟨en.clock.resetRemove c, ops.resetRemove en.val c⟩ := by
  rewrite [get?_rmKey_self, hg]; rfl

/-- other keys are untouched by a key remove -/
theorem rm_step_other_partial (c : VClock A) (e : FMap K (MapEntry V A)) (k k' : K) (hne : k' ≠ k) :
    (rmKey ops c e k).get? k' = e.get? k' := get?_rmKey_other ops c e k k' hne

end Crdt.C05
