import CrdtModel.Spec.OrswotSys
import CrdtModel.Spec.Lattice
import CrdtModel.Spec.GListSys
set_option linter.unusedSectionVars false -- the statement of `causal_implies_ok` carries an unused `[LinOrd M]`
/-!
# C01 — replicas that applied the same ops converge (op-based SEC, causal delivery)

For each type, `Reach U s K` ranges over every state any replica (or snapshot) can have in any history over the
op universe `U` whose deliveries satisfy the type's discipline `Ok`; two such states with the same *set* of
delivered ops are **equal as states**, hence agree on every read and every causal context.
The disciplines used are weaker than causal delivery (so every causal schedule is covered):
* VClock, GCounter, PNCounter, GSet, LWWReg (unique markers), MaxReg, MinReg, MVReg, GList, MerkleReg: no constraint at all;
* Orswot, Map (key level): each actor's *adds/updates* in issue order (a causal schedule delivers an actor's earlier
  ops first, because the actor had applied them before generating the later one – `causal_implies_ok`);
* List: per-actor order + a delete after the insert it targets.
This file holds the instances for Orswot, the lattice types and GList; MVReg is `C06.converge` (up to the order of the
`Vec`), MerkleReg `C15.state_function_of_node_set`, the Map key level `C05.keys_converge`, List `C12.same_ops_same_sequence`.
-/
namespace Crdt.C01
open RepSys

section generic
variable {σ ω : Type} (R : RepSys σ ω) {U : List ω}
/-- the generic statement (instantiated below): same delivered set ⇒ same state -/
theorem same_ops_same_state (wf : R.WF U) {s s' : σ} {K K' : List ω} (h : R.Reach U s K) (h' : R.Reach U s' K')
    (e : ∀ o, o ∈ K ↔ o ∈ K') : s = s' := converge wf h h' e
end generic

section orswot
variable {M A : Type} [LinOrd M] [LinOrd A] {U K K' : List (OrswotOp M A)} {s s' : Orswot M A}

theorem orswot (wf : OrswotSpec.LogWF U) (h : orswotSys.Reach U s K) (h' : orswotSys.Reach U s' K')
    (e : ∀ o, o ∈ K ↔ o ∈ K') : s = s' := converge (R := orswotSys) wf h h' e

/-- identical reads and contexts, spelled out -/
theorem orswot_reads (wf : OrswotSpec.LogWF U) (h : orswotSys.Reach U s K) (h' : orswotSys.Reach U s' K')
    (e : ∀ o, o ∈ K ↔ o ∈ K') :
    s.read.val = s'.read.val ∧ s.read.addClock = s'.read.addClock ∧ (∀ m, (s.contains m).val = (s'.contains m).val ∧
      (s.contains m).rmClock = (s'.contains m).rmClock) := by
  rewrite [orswot wf h h' e]; exact ⟨rfl, rfl, fun _ => ⟨rfl, rfl⟩⟩

/-- a causal schedule satisfies the Orswot discipline: if the receiver knows everything the author knew when it
generated the op (`deps`: the author's knowledge list at that moment), and the author knew all of its own earlier adds,
the op may be applied -/
theorem causal_implies_ok {op : OrswotOp M A} {deps : List (OrswotOp M A)}
    (own_earlier : ∀ d ms, op = .add d ms → OrswotSpec.PredsIn U deps d)
    (causal : ∀ o ∈ deps, o ∈ K) : OrswotSpec.Ok U K op := by
  cases op with
  | add d ms => exact fun d' ms' hu ha hlt => causal _ (own_earlier d ms rfl d' ms' hu ha hlt)
  | rm c ms => trivial
end orswot

section lattice
variable {α : Type} [LinOrd α]
theorem vclock {U K K' : List (Dot α)} {s s' : VClock α} (h : vclockSys.Reach U s K) (h' : vclockSys.Reach U s' K')
    (e : ∀ o, o ∈ K ↔ o ∈ K') : s = s' := converge (R := vclockSys) trivial h h' e
theorem gcounter {U K K' : List (Dot α)} {s s' : GCounter α} (h : gcounterSys.Reach U s K) (h' : gcounterSys.Reach U s' K')
    (e : ∀ o, o ∈ K ↔ o ∈ K') : s = s' := converge (R := gcounterSys) trivial h h' e
theorem pncounter {U K K' : List (PNOp α)} {s s' : PNCounter α} (h : pncounterSys.Reach U s K)
    (h' : pncounterSys.Reach U s' K') (e : ∀ o, o ∈ K ↔ o ∈ K') : s = s' := converge (R := pncounterSys) trivial h h' e
theorem gset {U K K' : List α} {s s' : GSet α} (h : gsetSys.Reach U s K) (h' : gsetSys.Reach U s' K')
    (e : ∀ o, o ∈ K ↔ o ∈ K') : s = s' := converge (R := gsetSys) trivial h h' e
theorem maxreg (v0 : α) {U K K' : List α} {s s' : MaxReg α} (h : (maxregSys v0).Reach U s K)
    (h' : (maxregSys v0).Reach U s' K') (e : ∀ o, o ∈ K ↔ o ∈ K') : s = s' := converge (R := maxregSys v0) trivial h h' e
theorem minreg (v0 : α) {U K K' : List α} {s s' : MinReg α} (h : (minregSys v0).Reach U s K)
    (h' : (minregSys v0).Reach U s' K') (e : ∀ o, o ∈ K ↔ o ∈ K') : s = s' := converge (R := minregSys v0) trivial h h' e
theorem lwwreg {ν : Type} [DecidableEq ν] (r0 : LWWReg ν α) {U K K' : List (LWWReg ν α)} {s s' : LWWReg ν α}
    (wf : UniqueMarkers r0 U) (h : (lwwSys r0).Reach U s K) (h' : (lwwSys r0).Reach U s' K')
    (e : ∀ o, o ∈ K ↔ o ∈ K') : s = s' := converge (R := lwwSys r0) wf h h' e
end lattice

section glist
variable {τ : Type} [LinOrd τ]
/-- GList: no delivery constraint at all -/
theorem glist {U K K' : List (GListOp τ)} {s s' : GList τ} (h : glistSys.Reach U s K) (h' : glistSys.Reach U s' K')
    (e : ∀ o, o ∈ K ↔ o ∈ K') : s = s' := converge (R := glistSys) trivial h h' e
end glist

end Crdt.C01
