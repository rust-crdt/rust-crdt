import CrdtModel.Proofs.SysOrswot
import CrdtModel.Props.C01
import CrdtModel.Props.C02
import CrdtModel.Props.C03
import CrdtModel.Props.C09
import CrdtModel.Props.C20
/-!
# Orswot theorems for every execution of the system – NO well-formedness hypothesis

`Run c`: `c` is a configuration reached by the system of Spec/SysOrswot.lean (every op produced by the API from the issuing
replica's current state; each actor's adds delivered in issue order, removes any time, duplicates allowed; state merges;
saved states).  `c.View s K`: `s` is the state of one of `c`'s replicas or saved states, `K` the list of ops it has learned.

`run_logWF`, `run_reach`, `run_own_known`, `run_contig` are the invariant (parts (a)–(d) of `SysInv`, Proofs/SysOrswot.lean);
the rest feeds it into the theorems of Props/C01 … C20 and so discharges their hypotheses `LogWF U` and `Reach U s K`.
-/
namespace Crdt.Sys
open RepSys OrswotSpec
section
variable {M A : Type} [LinOrd M] [LinOrd A] {c : Cfg M A} {s s' : Orswot M A} {K K' : List (OrswotOp M A)}

/-- (a) the log of every run is well-formed: a dot names one add, remove contexts store no zero -/
theorem run_logWF (r : Run c) : LogWF c.log := (sysInv_run r).wf

/-- (b) every replica state of every run is `Reach`-derivable over the run's log, with the replica's knowledge -/
theorem run_reach (r : Run c) (i : A) : orswotSys.Reach c.log (c.rep i) (c.know i) := (sysInv_run r).reach i

/-- (b) the same for every saved state -/
theorem run_reach_snap (r : Run c) {p : Orswot M A × List (OrswotOp M A)} (hp : p ∈ c.snaps) :
    orswotSys.Reach c.log p.1 p.2 := (sysInv_run r).snaps p hp

theorem run_view_reach (r : Run c) (v : c.View s K) : orswotSys.Reach c.log s K := (sysInv_run r).view v

/-- (c) an actor's replica knows all of that actor's adds -/
theorem run_own_known (r : Run c) (i : A) (d : Dot A) (ms : List M) (h : OrswotOp.add d ms ∈ c.log) (ha : d.actor = i) :
    OrswotOp.add d ms ∈ c.know i := (sysInv_run r).own i d ms h ha

theorem run_know_sub_log (r : Run c) (v : c.View s K) : ∀ o ∈ K, o ∈ c.log :=
  RepSys.reach_sub (run_view_reach r v)

theorem run_dot_pos (r : Run c) {d : Dot A} {ms : List M} (h : OrswotOp.add d ms ∈ c.log) : 0 < d.counter :=
  (sysInv_run r).dots.pos _ h d rfl

/-- (d) per actor, the counters of the log are exactly `1 .. clk (c.know i) i` (= `1 ..` the replica clock of `i` at `i`) -/
theorem run_contig (r : Run c) (i : A) (n : Nat) :
    (∃ ms, OrswotOp.add ⟨i, n⟩ ms ∈ c.log) ↔ (0 < n ∧ n ≤ clk (c.know i) i) := by
  rewrite [← mem_addDot]
  exact (sysInv_run r).dots.contig_iff ((sysInv_run r).top i) n

/-- (d) … and the replica clock of `i` read at `i` is `clk c.log i`, which equals that bound (`SysInv.clk_know_eq_log`) -/
theorem run_own_clock (r : Run c) (i : A) : (c.rep i).clock.get i = clk c.log i := by
  have inv := sysInv_run r
  rw [(inv.rep i).clock i, inv.clk_know_eq_log i]

/-- a dot names one add, in every run -/
theorem run_dot_unique (r : Run c) {d : Dot A} {ms ms' : List M} (h : OrswotOp.add d ms ∈ c.log)
    (h' : OrswotOp.add d ms' ∈ c.log) : ms = ms' := (run_logWF r).dot_unique d ms ms' h h'

/-- **C01 / C08 / C20**: two replicas / saved states of a run that have learned the same set of ops are EQUAL (hence agree
on every read and every context) – however each one got there -/
theorem run_converge (r : Run c) (v : c.View s K) (v' : c.View s' K') (e : ∀ o, o ∈ K ↔ o ∈ K') : s = s' :=
  C01.orswot (run_logWF r) (run_view_reach r v) (run_view_reach r v') e

/-- the replica form -/
theorem run_converge_rep (r : Run c) (i j : A) (e : ∀ o, o ∈ c.know i ↔ o ∈ c.know j) : c.rep i = c.rep j :=
  run_converge r (.rep i) (.rep j) e

/-- the same across TIME: a state held at some point of a run and a state held any number of steps later -/
theorem run_converge_later {c' : Cfg M A} (r : Run c) (st : Steps c c') (v : c.View s K) (v' : c'.View s' K')
    (e : ∀ o, o ∈ K ↔ o ∈ K') : s = s' := by
  have inv := sysInv_run r
  obtain ⟨inv', mono⟩ := sysInv_steps inv st
  exact C01.orswot inv'.wf (mono (inv.view v)) (inv'.view v') e

/-- identical reads and contexts, spelled out -/
theorem run_converge_reads (r : Run c) (v : c.View s K) (v' : c.View s' K') (e : ∀ o, o ∈ K ↔ o ∈ K') :
    s.read.val = s'.read.val ∧ s.read.addClock = s'.read.addClock ∧ (∀ m, (s.contains m).val = (s'.contains m).val ∧
      (s.contains m).rmClock = (s'.contains m).rmClock) :=
  C01.orswot_reads (run_logWF r) (run_view_reach r v) (run_view_reach r v') e

/-- **C04**: every state of every run IS the executable specification of what it has learned -/
theorem run_state_eq_spec (r : Run c) (v : c.View s K) : s = specState K :=
  C04.state_eq_spec (run_logWF r) (run_view_reach r v)

/-- **C04 membership** at any replica / saved state of any run: `m` is read iff an add of `m` is known that no known remove
of `m` covers -/
theorem run_member_iff (r : Run c) (v : c.View s K) (m : M) :
    m ∈ s.read.val ↔
      ∃ d ms, OrswotOp.add d ms ∈ K ∧ m ∈ ms ∧ 0 < d.counter ∧
        ∀ cl ms', OrswotOp.rm cl ms' ∈ K → m ∈ ms' → cl.get d.actor < d.counter :=
  C04.member_iff (run_logWF r) (run_view_reach r v) m

/-- positivity is part of the invariant: dropped from the right-hand side -/
theorem run_member_iff' (r : Run c) (v : c.View s K) (m : M) :
    m ∈ s.read.val ↔
      ∃ d ms, OrswotOp.add d ms ∈ K ∧ m ∈ ms ∧
        ∀ cl ms', OrswotOp.rm cl ms' ∈ K → m ∈ ms' → cl.get d.actor < d.counter := by
  rewrite [run_member_iff r v m]
  constructor
  · rintro ⟨d, ms, h, hm, _, hc⟩; exact ⟨d, ms, h, hm, hc⟩
  · rintro ⟨d, ms, h, hm, hc⟩; exact ⟨d, ms, h, hm, run_dot_pos r (run_know_sub_log r v _ h), hc⟩

/-- **C04 add wins** -/
theorem run_add_wins (r : Run c) (v : c.View s K) {d : Dot A} {ms : List M} {m : M} (hin : OrswotOp.add d ms ∈ K)
    (hm : m ∈ ms) (hcov : ∀ cl ms', OrswotOp.rm cl ms' ∈ K → m ∈ ms' → cl.get d.actor < d.counter) : m ∈ s.read.val :=
  (run_member_iff' r v m).mpr ⟨d, ms, hin, hm, hcov⟩

/-- **C02** on any two / three replicas or saved states of a run -/
theorem run_merge_comm (r : Run c) (v : c.View s K) (v' : c.View s' K') : s.merge s' = s'.merge s :=
  C02.orswot_comm (run_logWF r) (run_view_reach r v) (run_view_reach r v')

section assoc  -- a third state, for this theorem only; all six names, so that they are bound in this order
variable {s s' s'' : Orswot M A} {K K' K'' : List (OrswotOp M A)}
theorem run_merge_assoc (r : Run c) (v : c.View s K) (v' : c.View s' K') (v'' : c.View s'' K'') :
    (s.merge s').merge s'' = s.merge (s'.merge s'') :=
  C02.orswot_assoc (run_logWF r) (run_view_reach r v) (run_view_reach r v') (run_view_reach r v'')
end assoc

theorem run_merge_idem (r : Run c) (v : c.View s K) : s.merge s = s :=
  C02.orswot_idem (run_logWF r) (run_view_reach r v)

/-- **C03**: merging two states of a run gives the state of anyone who learned the union -/
theorem run_merge_is_union {t : Orswot M A} {L : List (OrswotOp M A)} (r : Run c) (v : c.View s K) (v' : c.View s' K')
    (vt : c.View t L) (e : ∀ o, o ∈ L ↔ (o ∈ K ∨ o ∈ K')) : s.merge s' = t :=
  merge_is_union (R := orswotSys) (run_logWF r) (run_view_reach r v) (run_view_reach r v') (run_view_reach r vt) e

/-- **C09**: re-applying an op a replica already knows changes nothing -/
theorem run_dup_noop (r : Run c) (v : c.View s K) {op : OrswotOp M A} (hk : op ∈ K) : s.apply op = s :=
  C09.orswot_duplicate (run_logWF r) (run_view_reach r v) (run_know_sub_log r v op hk) hk

/-- **C09**: merging a state whose knowledge is already known (old snapshot, lagging peer) changes nothing -/
theorem run_stale_noop (r : Run c) (v : c.View s K) (v' : c.View s' K') (sub : ∀ o, o ∈ K' → o ∈ K) : s.merge s' = s :=
  C09.orswot_stale (run_logWF r) (run_view_reach r v) (run_view_reach r v') sub

/-- **C09 no resurrection** -/
theorem run_no_resurrection (r : Run c) (v : c.View s K) (m : M)
    (hall : ∀ d ms, OrswotOp.add d ms ∈ K → m ∈ ms →
      ∃ cl ms', OrswotOp.rm cl ms' ∈ K ∧ m ∈ ms' ∧ d.counter ≤ cl.get d.actor) : m ∉ s.read.val :=
  C09.no_resurrection (run_logWF r) (run_view_reach r v) m (fun d ms h hm _ => hall d ms h hm)

/-- **C07 freshness**: the dot the API derives at `i` is `i`'s next one, and NO op of the log carries it -/
theorem run_fresh_dot (r : Run c) (i : A) :
    ((c.rep i).read.deriveAddCtx i).dot = ⟨i, clk c.log i + 1⟩ ∧
    ∀ ms, OrswotOp.add ((c.rep i).read.deriveAddCtx i).dot ms ∉ c.log := by
  have inv := sysInv_run r
  have hd := inv.derived_dot i
  exact ⟨by rw [hd, inv.clk_know_eq_log i], fun ms hin => (inv.top i).next_unused _ (hd ▸ hin) rfl⟩

/-- **C07**: element-level remove context = exactly the element's surviving witnesses, at any state of any run -/
theorem run_element_rm_clock (r : Run c) (v : c.View s K) (m : M) (a : A) : (s.contains m).rmClock.get a = E K m a :=
  C07.element_rm_clock (run_logWF r) (run_view_reach r v) m a

/-- **C07**: a remove built from a context read in a run cannot affect an add its reader had not seen -/
theorem run_rm_ctx_covers_only_seen (r : Run c) (v : c.View s K) (m : M) {d : Dot A} {ms : List M}
    (hu : OrswotOp.add d ms ∈ c.log) (hcov : d.counter ≤ (s.contains m).deriveRmCtx.clock.get d.actor) :
    OrswotOp.add d ms ∈ K :=
  C07.rm_ctx_covers_only_seen (run_logWF r) (run_view_reach r v) _
    (C07.rm_clock_le_add_clock (run_logWF r) (run_view_reach r v) m) hu (run_dot_pos r hu) hcov

/-- **C20**: `==` on the states, and no pending-remove residue once caught up -/
theorem run_eq (r : Run c) (v : c.View s K) (v' : c.View s' K') (e : ∀ o, o ∈ K ↔ o ∈ K') : decide (s = s') = true :=
  C20.orswot_eq (run_logWF r) (run_view_reach r v) (run_view_reach r v') e

theorem run_no_pending_residue (r : Run c) (v : c.View s K)
    (caught_up : ∀ cl ms, OrswotOp.rm cl ms ∈ K → ∀ a, cl.get a ≤ clk K a) : s.deferred = ∅ :=
  C20.no_pending_residue (run_logWF r) (run_view_reach r v) caught_up
end

/-! ## non-vacuity: a concrete 5-step run built with the `Step` constructors

Actors 1 and 2.  1 adds 7; the op is delivered to 2; then CONCURRENTLY 2 removes 7 (context read with `contains`) and 1 adds 7
again; finally 1 merges 2's state.  Add wins: 7 is still there, witnessed by the second dot only. -/
def ex0 : Cfg Nat Nat := Cfg.init
def ex1 : Cfg Nat Nat := ex0.gen 1 (Orswot.add 7 ((ex0.rep 1).read.deriveAddCtx 1))
def ex2 : Cfg Nat Nat := ex1.deliver 2 (.add ⟨1, 1⟩ [7])
def ex3 : Cfg Nat Nat := ex2.gen 2 (Orswot.rm 7 ((ex2.rep 2).contains 7).deriveRmCtx)
def ex4 : Cfg Nat Nat := ex3.gen 1 (Orswot.add 7 ((ex3.rep 1).read.deriveAddCtx 1))
def ex5 : Cfg Nat Nat := ex4.mergeIn 1 (ex4.rep 2) (ex4.know 2)

theorem ex_run : Run ex5 := by
  have r1 : Run ex1 := Run.step Run.init (Step.add ex0 1 7)
  have r2 : Run ex2 :=
    Run.step r1 (Step.deliver ex1 2 (.add ⟨1, 1⟩ [7]) List.mem_cons_self (predsIn_one (sysInv_run r1).dots.pos 1))
  have r3 : Run ex3 := Run.step r2 (Step.rm ex2 2 7)
  have r4 : Run ex4 := Run.step r3 (Step.add ex3 1 7)
  exact Run.step r4 (Step.merge ex4 1 2)

example : ex5.log = [.add ⟨1, 2⟩ [7], .rm ((∅ : VClock Nat).apply ⟨1, 1⟩) [7], .add ⟨1, 1⟩ [7]] := by decide +kernel
example : (ex5.rep 1).read.val = [7] ∧ (ex5.rep 2).read.val = [] ∧ ((ex5.rep 1).contains 7).rmClock.get 1 = 2 := by decide +kernel
example : (ex5.rep 1).merge (ex5.rep 2) = (ex5.rep 2).merge (ex5.rep 1) := run_merge_comm ex_run (.rep 1) (.rep 2)
example : ∀ ms, OrswotOp.add (⟨1, 3⟩ : Dot Nat) ms ∉ ex5.log := by
  have h := (run_fresh_dot ex_run 1).2
  have e : ((ex5.rep 1).read.deriveAddCtx 1).dot = ⟨1, 3⟩ := by decide +kernel
  rewrite [e] at h; exact h

end Crdt.Sys
