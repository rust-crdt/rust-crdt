import CrdtModel.Spec.OrswotSys
import CrdtModel.Proofs.OrswotExec
/-!
# C04 — Orswot is an observed-remove, add-wins set

Hypotheses: `LogWF U` (a dot names one add; remove contexts are clocks without stored zeros – what API generation
guarantees) and `Reach U s K`: `s` is the state of any replica or snapshot of any history whose deliveries respect
each actor's own order **on adds** (removes may arrive in any order, before or after what they observed; duplicates;
merges of live or stale states; `add_all`/`rm_all` included since ops carry member lists).
-/
namespace Crdt.C04
open RepSys OrswotSpec Orswot
section
variable {M A : Type} [LinOrd M] [LinOrd A] {U K : List (OrswotOp M A)} {s : Orswot M A}

theorem rep (wf : LogWF U) (h : orswotSys.Reach U s K) : OrswotSpec.Rep K s := (reach_rep (R := orswotSys) wf h).2

/-- **every derivable state IS the executable specification of its knowledge** (`specState` builds the state from the op
list alone; it is what the driver prints and the check compares the implementation with) -/
theorem state_eq_spec (wf : LogWF U) (h : orswotSys.Reach U s K) : s = specState K := eq_specState (rep wf h)

theorem member_iff_of_rep (r : OrswotSpec.Rep K s) (m : M) :
    m ∈ s.read.val ↔
      ∃ d ms, OrswotOp.add d ms ∈ K ∧ m ∈ ms ∧ 0 < d.counter ∧
        ∀ c ms', OrswotOp.rm c ms' ∈ K → m ∈ ms' → c.get d.actor < d.counter := by
  rewrite [mem_read_val_iff, r.present_iff_witness]
  constructor
  · rintro ⟨a, ha⟩
    -- a positive witness is the newest add of `m` by `a`, above all known removes of `m`
    have hlt := Ev_pos.mp ha
    obtain ⟨d, ms, hin, rfl, hm, hc⟩ := Mx_attained (Nat.zero_lt_of_lt hlt)
    rewrite [← hc] at hlt
    exact ⟨d, ms, hin, hm, Nat.zero_lt_of_lt hlt, fun c ms' hrm hm' => Nat.lt_of_le_of_lt (le_θ hrm hm' _) hlt⟩
  · rintro ⟨d, ms, hin, hm, hpos, hcov⟩
    refine ⟨d.actor, Ev_pos.mpr (Nat.lt_of_lt_of_le ?_ (le_Mx hin hm))⟩
    -- `θ` is `0` or the context of a known remove of `m`
    rcases Nat.eq_zero_or_pos (θ K m d.actor) with e | e
    · rwa [e]
    · obtain ⟨c, ms', hrm, hm', hc⟩ := θ_attained e
      exact hc ▸ hcov c ms' hrm hm'

/-- **membership**: `m` is read iff the replica knows an add of `m` that no known remove of `m` covers -/
theorem member_iff (wf : LogWF U) (h : orswotSys.Reach U s K) (m : M) :
    m ∈ s.read.val ↔
      ∃ d ms, OrswotOp.add d ms ∈ K ∧ m ∈ ms ∧ 0 < d.counter ∧
        ∀ c ms', OrswotOp.rm c ms' ∈ K → m ∈ ms' → c.get d.actor < d.counter :=
  member_iff_of_rep (rep wf h) m

/-- `contains(m)` agrees with `read` -/
theorem contains_val (m : M) : (s.contains m).val = true ↔ m ∈ s.read.val := (mem_read_val_iff s m).symm

/-- **the context returned for a member is exactly its surviving add witnesses**: per actor, the newest known add of
`m` by that actor, unless a known remove of `m` covers it -/
theorem contains_rm_clock (wf : LogWF U) (h : orswotSys.Reach U s K) (m : M) (a : A) :
    (s.contains m).rmClock.get a = (if Mx K m a > θ K m a then Mx K m a else 0) :=
  (rmClock_contains s m a).trans ((rep wf h).entries m a)

/-- **add wins**: an add that no known remove of that member covers survives, whatever order things arrived in -/
theorem add_wins (wf : LogWF U) (h : orswotSys.Reach U s K) {d : Dot A} {ms : List M} {m : M}
    (hin : OrswotOp.add d ms ∈ K) (hm : m ∈ ms) (hpos : 0 < d.counter)
    (hcov : ∀ c ms', OrswotOp.rm c ms' ∈ K → m ∈ ms' → c.get d.actor < d.counter) : m ∈ s.read.val :=
  (member_iff wf h m).mpr ⟨d, ms, hin, hm, hpos, hcov⟩

/-- **no uncovered add, no member**: if every known add of `m` is covered by a known remove of `m`,
`m` is absent -/
theorem removed_if_all_covered (wf : LogWF U) (h : orswotSys.Reach U s K) (m : M)
    (hall : ∀ d ms, OrswotOp.add d ms ∈ K → m ∈ ms → 0 < d.counter →
      ∃ c ms', OrswotOp.rm c ms' ∈ K ∧ m ∈ ms' ∧ d.counter ≤ c.get d.actor) : m ∉ s.read.val := by
  intro hmem
  obtain ⟨d, ms, hin, hm, hpos, hcov⟩ := (member_iff wf h m).mp hmem
  obtain ⟨c, ms', hrm, hm', hle⟩ := hall d ms hin hm hpos
  exact Nat.lt_irrefl _ (Nat.lt_of_le_of_lt hle (hcov c ms' hrm hm'))

theorem read_add_clock (wf : LogWF U) (h : orswotSys.Reach U s K) (a : A) :
    s.read.addClock.get a = clk K a := (rep wf h).clock a
end

/-! ## non-vacuity: a concrete history meeting the hypotheses (concurrent add and remove of the same member) -/
def c1 : VClock Nat := (∅ : VClock Nat).apply ⟨1, 1⟩
def exU : List (OrswotOp Nat Nat) := [.add ⟨1, 1⟩ [7], .rm c1 [7], .add ⟨2, 1⟩ [7]]
example : LogWF exU := .of_nodup (by decide) (by decide)
/-- the remove arrives BEFORE the add it observed and before a concurrent add; the concurrent add wins -/
example : ∃ s K, (orswotSys (M := Nat) (A := Nat)).Reach exU s K ∧ s.read.val = [7] ∧ (s.contains 7).rmClock.get 2 = 1
    ∧ (s.contains 7).rmClock.get 1 = 0 :=
  have pos : ∀ o ∈ exU, ∀ d, addDot o = some d → 0 < d.counter := by decide
  ⟨_, _, ((Reach.init.apply (op := OrswotOp.rm c1 [7]) (by decide) trivial).apply (op := OrswotOp.add ⟨2, 1⟩ [7]) (by decide)
    (predsIn_one pos 2)).apply (op := OrswotOp.add ⟨1, 1⟩ [7]) (by decide) (predsIn_one pos 1), by decide, by decide, by decide⟩

end Crdt.C04
