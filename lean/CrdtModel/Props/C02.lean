import CrdtModel.Spec.OrswotSys
import CrdtModel.Spec.Lattice
import CrdtModel.Spec.GListSys
/-!
# C02 — merge is a join: commutative, associative, idempotent on reachable states

`a`, `b`, `c` are any states derivable by any history of local edits, op deliveries and earlier merges (`Reach`),
including states holding pending (deferred) removes and states that are themselves results of merges.
For Orswot the restriction to reachable states is essential (the repo's `weird_highlight_1`); the premise on the log is
"each actor confined to one replica" (`LogWF`).
For VClock (without stored zeros: Rust `==` is structural) and GSet the laws are also proved for *all* states; the other
lattice types are covered on reachable states, as instances of the generic statement.
-/
namespace Crdt.C02
open RepSys

section generic
variable {σ ω : Type} {R : RepSys σ ω} {U : List ω}
theorem comm (wf : R.WF U) {a b : σ} {Ka Kb : List ω} (ha : R.Reach U a Ka) (hb : R.Reach U b Kb) :
    R.merge a b = R.merge b a := merge_comm wf ha hb
theorem assoc (wf : R.WF U) {a b c : σ} {Ka Kb Kc : List ω} (ha : R.Reach U a Ka) (hb : R.Reach U b Kb)
    (hc : R.Reach U c Kc) : R.merge (R.merge a b) c = R.merge a (R.merge b c) := merge_assoc wf ha hb hc
theorem idem (wf : R.WF U) {a : σ} {Ka : List ω} (ha : R.Reach U a Ka) : R.merge a a = a := merge_idem wf ha
end generic

section orswot
variable {M A : Type} [LinOrd M] [LinOrd A] {U Ka Kb Kc : List (OrswotOp M A)} {a b c : Orswot M A}
theorem orswot_comm (wf : OrswotSpec.LogWF U) (ha : orswotSys.Reach U a Ka) (hb : orswotSys.Reach U b Kb) :
    a.merge b = b.merge a := merge_comm (R := orswotSys) wf ha hb
theorem orswot_assoc (wf : OrswotSpec.LogWF U) (ha : orswotSys.Reach U a Ka) (hb : orswotSys.Reach U b Kb)
    (hc : orswotSys.Reach U c Kc) : (a.merge b).merge c = a.merge (b.merge c) := by
  have h := merge_assoc (R := orswotSys) wf ha hb hc
  -- `orswotSys.merge` is `Orswot.merge`; left to the unifier, the nested `Orswot.merge` is unfolded first, which is slow
  dsimp only [orswotSys] at h
  exact h
theorem orswot_idem (wf : OrswotSpec.LogWF U) (ha : orswotSys.Reach U a Ka) : a.merge a = a :=
  merge_idem (R := orswotSys) wf ha
end orswot

section lattice_all_states
variable {α : Type} [LinOrd α]
/-- VClock: the laws hold for ALL states without stored zeros -/
theorem vclock_comm {a b : VClock α} (ha : a.NoZero) (hb : b.NoZero) : a.merge b = b.merge a :=
  VClock.ext_get (VClock.noZero_merge ha _) (VClock.noZero_merge hb _) (fun x => by
    rw [VClock.get_merge, VClock.get_merge, Nat.max_comm])
theorem vclock_assoc {a b c : VClock α} (ha : a.NoZero) (hb : b.NoZero) :
    (a.merge b).merge c = a.merge (b.merge c) :=
  VClock.ext_get (VClock.noZero_merge (VClock.noZero_merge ha _) _) (VClock.noZero_merge ha _) (fun x => by
    simp only [VClock.get_merge, Nat.max_assoc])
theorem vclock_idem {a : VClock α} (ha : a.NoZero) : a.merge a = a :=
  VClock.ext_get (VClock.noZero_merge ha _) ha (fun x => by rw [VClock.get_merge, Nat.max_self])

theorem gset_comm (a b : GSet α) : a.merge b = b.merge a :=
  GSet.ext_of_contains_iff fun x => by rw [GSet.contains_merge, GSet.contains_merge, or_comm]
theorem gset_assoc (a b c : GSet α) : (a.merge b).merge c = a.merge (b.merge c) :=
  GSet.ext_of_contains_iff fun x => by simp only [GSet.contains_merge, or_assoc]
theorem gset_idem (a : GSet α) : a.merge a = a :=
  GSet.ext_of_contains_iff fun x => by rw [GSet.contains_merge, or_self]
end lattice_all_states

section lattice_reachable
variable {α : Type} [LinOrd α]
theorem gcounter_laws {U Ka Kb Kc : List (Dot α)} {a b c : GCounter α} (ha : gcounterSys.Reach U a Ka)
    (hb : gcounterSys.Reach U b Kb) (hc : gcounterSys.Reach U c Kc) :
    a.merge b = b.merge a ∧ (a.merge b).merge c = a.merge (b.merge c) ∧ a.merge a = a :=
  merge_laws (R := gcounterSys) trivial ha hb hc
theorem pncounter_laws {U Ka Kb Kc : List (PNOp α)} {a b c : PNCounter α} (ha : pncounterSys.Reach U a Ka)
    (hb : pncounterSys.Reach U b Kb) (hc : pncounterSys.Reach U c Kc) :
    a.merge b = b.merge a ∧ (a.merge b).merge c = a.merge (b.merge c) ∧ a.merge a = a :=
  merge_laws (R := pncounterSys) trivial ha hb hc
theorem maxreg_laws (v0 : α) {U Ka Kb Kc : List α} {a b c : MaxReg α} (ha : (maxregSys v0).Reach U a Ka)
    (hb : (maxregSys v0).Reach U b Kb) (hc : (maxregSys v0).Reach U c Kc) :
    a.merge b = b.merge a ∧ (a.merge b).merge c = a.merge (b.merge c) ∧ a.merge a = a := by
  have h := merge_laws (R := maxregSys v0) trivial ha hb hc
  -- as in `orswot_assoc`; so for the other two registers, whose `merge` is an `if` as well
  dsimp only [maxregSys] at h
  exact h
theorem minreg_laws (v0 : α) {U Ka Kb Kc : List α} {a b c : MinReg α} (ha : (minregSys v0).Reach U a Ka)
    (hb : (minregSys v0).Reach U b Kb) (hc : (minregSys v0).Reach U c Kc) :
    a.merge b = b.merge a ∧ (a.merge b).merge c = a.merge (b.merge c) ∧ a.merge a = a := by
  have h := merge_laws (R := minregSys v0) trivial ha hb hc
  dsimp only [minregSys] at h
  exact h
/-- LWWReg with unique markers -/
theorem lwwreg_laws {ν : Type} [DecidableEq ν] (r0 : LWWReg ν α) {U Ka Kb Kc : List (LWWReg ν α)} {a b c : LWWReg ν α}
    (wf : UniqueMarkers r0 U) (ha : (lwwSys r0).Reach U a Ka) (hb : (lwwSys r0).Reach U b Kb)
    (hc : (lwwSys r0).Reach U c Kc) :
    a.merge b = b.merge a ∧ (a.merge b).merge c = a.merge (b.merge c) ∧ a.merge a = a := by
  have h := merge_laws (R := lwwSys r0) wf ha hb hc
  dsimp only [lwwSys] at h
  exact h
theorem glist_laws {τ : Type} [LinOrd τ] {U Ka Kb Kc : List (GListOp τ)} {a b c : GList τ} (ha : glistSys.Reach U a Ka)
    (hb : glistSys.Reach U b Kb) (hc : glistSys.Reach U c Kc) :
    a.merge b = b.merge a ∧ (a.merge b).merge c = a.merge (b.merge c) ∧ a.merge a = a :=
  merge_laws (R := glistSys) trivial ha hb hc
end lattice_reachable

end Crdt.C02
