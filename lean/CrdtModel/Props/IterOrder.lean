import CrdtModel.Proofs.IterOrder
import CrdtModel.Proofs.ResetRemoveMVReg
import CrdtModel.Witness.ResetRemoveCollision
/-!
# The model's results do not depend on hash-map ITERATION ORDER

In Rust `Orswot.entries : HashMap<M, VClock>`, `Orswot.deferred : HashMap<VClock, HashSet<M>>` and
`Map.deferred : HashMap<VClock, BTreeSet<K>>` are hash containers whose iteration order is unspecified (randomised).
The model stores them as sorted association lists and iterates in key order.  Here every loop over such a container is
re-stated with the iterated sequence as an ARGUMENT (the `…O` functions of `Proofs/IterOrder.lean`: same loop bodies, only
`x.l` replaced by an arbitrary list), and it is proved that for EVERY permutation of
the container's content – independently chosen for every single iteration, nested ones included – the result is the
model function's result.

Method: a left fold whose steps pairwise commute is invariant under permutation (core's `List.Perm.foldl_eq'`), and the loop
bodies commute.  The fact underneath is that two subtractions from a member clock commute: `reset_remove` filters the stored
counters by a test on the context alone (`VClock.get?_rr`), hence `VClock.resetRemove_comm` – ALL clocks, stored zeros included;
emptied entries are erased in both orders (`VClock.rrClock_bind`).

No well-formedness hypothesis is needed anywhere for `Orswot`: all statements are for ALL states.  For `Map` the value
type's `reset_remove`s must commute (`RRComm`, necessary: `map_needs_rrComm`); it holds for `MVReg`, `Orswot` and nested
`Map` values in all states (`rrComm_instances`).

Order-dependence that remains, and why it is harmless / out of scope:
* the PAYLOAD of `Validation::DoubleSpentDot` returned by `Orswot::validate_merge` is the first hit in `HashMap` order
  (`validateMerge_payload_order_dependent`); only the verdict is order-free (`orswot_validateMerge_verdict_order_free`).
  Nothing in the crate inspects the payload; the correspondence harness compares the kind only.
* read-side iterators (`Orswot::iter`, `read().val : HashSet`) hand out the members in hash order: their result is a
  set/multiset, the model's sorted list is its canonical representative; no state depends on it.
* `Map.entries : BTreeMap`, key sets `BTreeSet`, `VClock.dots : BTreeMap`, `MVReg.vals : Vec`, op member lists `Vec`:
  ordered containers, iteration order is part of the semantics and modelled as is (for `Orswot` `Add` the member vector
  is nevertheless shown permutable, and `HashSet::from_iter(vec)` order-free: `setOfList_perm`).
* the pre-fix `reset_remove` (`collect()`, last one wins) WAS order-dependent: `old_resetRemove_order_dependent`.
-/
namespace Crdt.IterOrder

section orswot
open Orswot
variable {M A : Type} [LinOrd M] [LinOrd A]

/-- **`apply_rm`** (src/orswot.rs:274-294): `for member in members.iter()` (:275) and `existing_deferred.extend(members)`
(:287) with the `HashSet` enumerated in any two orders -/
theorem orswot_applyRm_order_free (s : Orswot M A) (members : FSet M) (r : RmOrd M)
    (hloop : r.loop.Perm members.l) (hext : r.ext.Perm members.l) (c : VClock A) :
    applyRmO s members r c = applyRm s members c := by
  unfold applyRmO applyRm
  simp only [rmLoop_perm c hloop, unionSet_eq_extendL, extendL_perm hext]
  rfl -- the two sides differ only in which compiled `match` they name

/-- two `apply_rm` commute – all states, all clocks, all member sets (the key fact behind the next theorems) -/
theorem orswot_applyRm_comm (s : Orswot M A) (ms1 ms2 : FSet M) (c1 c2 : VClock A) :
    applyRm (applyRm s ms1 c1) ms2 c2 = applyRm (applyRm s ms2 c2) ms1 c1 := by
  apply Orswot.ext
  · simp only [clock_applyRm] -- `rfl` is slow here: it compares the two inner states before it unfolds the outer `applyRm`
  · simp only [entries_applyRm]
    exact foldl_foldl_comm (fun b x y => rmMember_comm c1 c2 b x.1 y.1) ms1.l ms2.l s.entries
  · simp only [deferred_applyRm, clock_applyRm]
    exact deferIf_comm ..

theorem foldRm_perm {l l' : List (VClock A × FSet M)} (p : l.Perm l') (s : Orswot M A) : foldRm l s = foldRm l' s :=
  fold_order_free_of_comm p (fun b x y => orswot_applyRm_comm b x.2 y.2 x.1 y.1) s

/-- a loop of `apply_rm`s along a schedule of a table (`apply_deferred`, and the third loop of `merge`) -/
theorem foldRmO_eq {sch : DSched M A} {d : FMap (VClock A) (FSet M)} (h : sch.Valid d) (s : Orswot M A) :
    foldRmO sch s = foldRm d.l s :=
  (foldl_map_congr (fun p hp b => orswot_applyRm_order_free b p.1.2 p.2 (h.2 p hp).1 (h.2 p hp).2 p.1.1) s).trans
    (foldRm_perm h.1 s)

/-- **`apply_deferred`** (src/orswot.rs:359-364): `for (clock, entries) in deferred.into_iter()` in any order of the
`HashMap`, each inner `apply_rm` with its own orders of the `HashSet` -/
theorem orswot_applyDeferred_order_free (s : Orswot M A) (sch : DSched M A)
    (houter : (sch.map (·.1)).Perm s.deferred.l) (hinner : ∀ p ∈ sch, p.2.loop.Perm p.1.2.l ∧ p.2.ext.Perm p.1.2.l) :
    applyDeferredO s sch = applyDeferred s :=
  foldRmO_eq ⟨houter, hinner⟩ _

/-- **`CmRDT::apply`** (src/orswot.rs:65-85).
* `Add`: `for member in members` (:73-76) over any permutation of the member vector; then `apply_deferred` (:79) with
  any schedule of `self.deferred` (outer `HashMap` order and, per pending remove, both inner `HashSet` orders);
* `Rm`: `apply_rm` (:82) with the collected `HashSet` enumerated in any two orders (the set itself does not depend on
  the order of the vector: `setOfList_perm`). -/
theorem orswot_apply_order_free (s : Orswot M A) (op : OrswotOp M A) (ord : ApplyOrd M A) (h : ord.Valid s op) :
    applyO s ord op = s.apply op := by
  cases op with
  | rm c ms => exact orswot_applyRm_order_free s _ _ h.1 h.2 c
  | add dot ms =>
    unfold applyO Orswot.apply
    refine ite_congr rfl (fun _ => rfl) fun _ => ?_
    rewrite [addLoop_perm dot h.1]
    exact orswot_applyDeferred_order_free _ _ h.2.1 h.2.2

/-- **`CvRDT::merge`** (src/orswot.rs:133-198): with ANY enumeration of
* `self.entries` in the first loop `into_iter().filter_map(..).collect()` (:134-156; `mergeKeep` is a `filterMap`, i.e.
  order-free by construction – `collectO_eq` proves that the insert-one-by-one reading agrees for every order),
* `other.entries` in the second loop (:158-188; `mergeStep` for different members touch different keys of the
  accumulator and read only `self.clock`, `other.clock`),
* `other.deferred` in the third loop (:191-193), with any inner orders of each member `HashSet`,
* the `deferred` table of the intermediate state in the final `apply_deferred` (:197), with any inner orders,
the result is the model's `merge`. -/
theorem orswot_merge_order_free (s o : Orswot M A) (ord : MergeOrd M A)
    (hkeep : ord.keep.Perm s.entries.l) (hentries : ord.entries.Perm o.entries.l)
    (hdeferred : ord.deferred.Valid o.deferred) (hfinal : ord.final.Valid (mergeMid s o).deferred) :
    mergeO s o ord = s.merge o := by
  have mid : mergeMidO s o ord = mergeMid s o := by
    unfold mergeMidO mergeMid
    simp only [collectO_eq (keepF o) s.entries hkeep, mergeLoop_perm s o hentries, foldRmO_eq hdeferred, mergeKeep_eq]
  rw [merge_eq_mid, ← orswot_applyDeferred_order_free _ _ hfinal.1 hfinal.2, mergeO, mid]

/-- **`reset_remove`** (src/orswot.rs:202-227): with ANY enumeration of `self.entries` (`filter_map(..).collect()`,
:205-215) and of `self.deferred` (:220-225), and for each pending remove any order of `.extend(members)` (:223), the
result is the model's `resetRemove`.  (This is what fix c462df9 repaired, see `old_resetRemove_order_dependent`.) -/
theorem orswot_resetRemove_order_free (s : Orswot M A) (ord : RROrd M A)
    (hentries : ord.entries.Perm s.entries.l) (houter : (ord.deferred.map (·.1)).Perm s.deferred.l)
    (hinner : ∀ p ∈ ord.deferred, p.2.Perm p.1.2.l) (c : VClock A) :
    resetRemoveO s ord c = s.resetRemove c := by
  apply Orswot.ext
  · rfl
  · exact (collectO_eq _ s.entries hentries).trans (entries_resetRemove s c).symm
  · rewrite [deferred_resetRemove_eq, ← rrFold_perm c houter]
    refine foldl_map_congr (fun p hp b => ?_) ∅
    exact ite_congr rfl (fun _ => rfl) fun _ => deferExtendO_eq _ _ (hinner p hp)

/-- the hypotheses are satisfiable: the model's own (key-order) schedule is one of the allowed ones -/
theorem orswot_orders_exist (s o : Orswot M A) :
    (DSched.sorted s.deferred).Valid s.deferred ∧
    (⟨s.entries.l, o.entries.l, DSched.sorted o.deferred, DSched.sorted (mergeMid s o).deferred⟩ : MergeOrd M A).Valid s o :=
  ⟨DSched.sorted_valid _, List.Perm.refl _, List.Perm.refl _, DSched.sorted_valid _, DSched.sorted_valid _⟩

end orswot

section validate
variable {M A : Type} [LinOrd M] [LinOrd A]

/-- **`validate_merge`** (src/orswot.rs:114-130) iterates `self.entries` and `other.entries` (both `HashMap`s) and reports
the FIRST double-spent dot it meets: the verdict (`Ok` or not) is the same for all enumerations of the two tables … -/
theorem orswot_validateMerge_verdict_order_free (s o : Orswot M A) (ls lo : List (M × VClock A))
    (hs : ls.Perm s.entries.l) (ho : lo.Perm o.entries.l) :
    validateMergeO ls lo = .ok () ↔ s.validateMerge o = .ok () := by
  rw [validateMerge_eq, validateMergeO_ok_iff, validateMergeO_ok_iff, vmHit_none_perm hs ho]

/-- … but the PAYLOAD of the error is not (which is why the model's `DoubleSpentDot` payload is excluded from the
comparison with the real crate: only the kind is compared).  Harmless: no function of the crate inspects it. -/
theorem validateMerge_payload_order_dependent :
    let c1 : VClock Nat := (∅ : VClock Nat).apply ⟨0, 1⟩
    let c2 : VClock Nat := (∅ : VClock Nat).apply ⟨0, 2⟩
    let ls : List (Nat × VClock Nat) := [(1, c1), (2, c2)]
    let lo : List (Nat × VClock Nat) := [(3, c1), (4, c2)]
    (vmHit ls lo).map (·.ourMember) = some 1 ∧ (vmHit ls.reverse lo).map (·.ourMember) = some 2 := by decide +kernel

end validate

section map
open CMap
variable {K V VOp A : Type} [LinOrd K] [LinOrd A]

/-- two `apply_keyset_rm` commute, over every value type whose `reset_remove`s commute -/
theorem map_applyKeysetRm_comm {ops : ValOps V VOp A} (H : RRComm ops) (s : CMap K V A) (ks1 ks2 : FSet K)
    (c1 c2 : VClock A) :
    applyKeysetRm ops (applyKeysetRm ops s ks1 c1) ks2 c2 = applyKeysetRm ops (applyKeysetRm ops s ks2 c2) ks1 c1 := by
  apply CMap.ext
  · simp only [clock_applyKeysetRm] -- not `rfl`: as in `orswot_applyRm_comm`
  · simp only [entries_applyKeysetRm]
    exact foldl_foldl_comm (fun b x y => rmKey_comm H c1 c2 b x.1 y.1) ks1.l ks2.l s.entries
  · simp only [deferred_applyKeysetRm, clock_applyKeysetRm]
    exact deferIf_comm ..

theorem foldKRm_perm {ops : ValOps V VOp A} (H : RRComm ops) {l l' : List (VClock A × FSet K)} (p : l.Perm l')
    (s : CMap K V A) : foldKRm ops l s = foldKRm ops l' s :=
  fold_order_free_of_comm p (fun b x y => map_applyKeysetRm_comm H b x.2 y.2 x.1 y.1) s

/-- **`apply_deferred`** (src/map.rs:402-407): `for (clock, keys) in deferred` in any order of the `HashMap`
(the key sets are `BTreeSet`s and `entries` is a `BTreeMap`: their iteration order is fixed) -/
theorem map_applyDeferred_order_free {ops : ValOps V VOp A} (H : RRComm ops) (s : CMap K V A)
    (ld : List (VClock A × FSet K)) (h : ld.Perm s.deferred.l) :
    mapApplyDeferredO ops s ld = applyDeferred ops s := foldKRm_perm H h _

/-- **`CmRDT::apply`** (src/map.rs:186-205): the only hash iteration is the `apply_deferred` of an `Up` (:201) -/
theorem map_apply_order_free {ops : ValOps V VOp A} (H : RRComm ops) (s : CMap K V A) (ld : List (VClock A × FSet K))
    (h : ld.Perm s.deferred.l) (op : MapOp K VOp A) : mapApplyO ops s ld op = CMap.apply ops s op := by
  cases op with
  | rm c ks => rfl
  | up dot key op =>
    unfold mapApplyO CMap.apply
    exact ite_congr rfl (fun _ => rfl) fun _ => map_applyDeferred_order_free H _ ld h

/-- **`CvRDT::merge`** (src/map.rs:237-315): `for (rm_clock, keys) in other.deferred` (:308-310) in any order, then the
final `apply_deferred` (:314) with any enumeration of the intermediate state's `deferred` table.  The two loops over
`entries` (:238-305) iterate `BTreeMap`s. -/
theorem map_merge_order_free {ops : ValOps V VOp A} (H : RRComm ops) (s o : CMap K V A) (ld lf : List (VClock A × FSet K))
    (hd : ld.Perm o.deferred.l) (hf : lf.Perm (mapMergeMid ops s o).deferred.l) :
    mapMergeO ops s o ld lf = CMap.merge ops s o := by
  rewrite [map_merge_eq_mid, ← map_applyDeferred_order_free H _ lf hf]
  unfold mapMergeO mapMergeMid
  simp only [foldKRm_perm H hd]

/-- **`reset_remove`** (src/map.rs:90-119): the rebuild of `deferred` (:107-115) in any order – no hypothesis on the
value type (values are not touched by that loop) -/
theorem map_resetRemove_order_free (ops : ValOps V VOp A) (s : CMap K V A) (ld : List (VClock A × FSet K))
    (h : ld.Perm s.deferred.l) (c : VClock A) : mapResetRemoveO ops s ld c = CMap.resetRemove ops s c := by
  apply CMap.ext
  · rfl
  · rfl
  · exact rrFold_perm c h ∅

/-- the hypothesis `RRComm` holds for `MVReg`, `Orswot` and (recursively) `Map` values – for ALL value states, no
well-formedness needed -/
theorem rrComm_instances {ν M : Type} [DecidableEq ν] [LinOrd M] :
    RRComm (MVReg.valOps : ValOps (MVReg ν A) (MVOp ν A) A) ∧
    RRComm (Orswot.valOps : ValOps (Orswot M A) (OrswotOp M A) A) ∧
    (∀ (ops : ValOps V VOp A) (toNat : A → Nat), RRComm ops → RRComm (CMap.valOps (K := K) ops toNat)) :=
  ⟨MVReg.resetRemove_comm, Orswot.resetRemove_comm, fun _ _ H => map_resetRemove_comm H⟩

/-- `RRComm` cannot be dropped: a (contrived) value type whose `reset_remove`s do not commute makes `apply_deferred`
depend on the order in which two pending removes of the same key are met -/
theorem map_needs_rrComm :
    let ops : ValOps Nat Unit Nat :=
      { default := 0, apply := fun v _ => v, merge := fun v _ => v, resetRemove := fun v c => 2 * v + c.get 0,
        validateOp := fun _ _ => true, validateMerge := fun _ _ => true, eq := fun a b => some (decide (a = b)) }
    let c1 : VClock Nat := (∅ : VClock Nat).apply ⟨0, 1⟩
    let c2 : VClock Nat := (∅ : VClock Nat).apply ⟨0, 2⟩
    let ks : FSet Nat := Orswot.setOfList [7]
    let s : CMap Nat Nat Nat :=
      ⟨∅, (∅ : FMap Nat (MapEntry Nat Nat)).insert 7 ⟨(∅ : VClock Nat).apply ⟨0, 9⟩, 1⟩,
        ((∅ : FMap (VClock Nat) (FSet Nat)).insert c1 ks).insert c2 ks⟩
    (((mapApplyDeferredO ops s s.deferred.l).entries.get? 7).map (·.val) = some 8) ∧
    (((mapApplyDeferredO ops s s.deferred.l.reverse).entries.get? 7).map (·.val) = some 9) := by decide +kernel

end map

/-- with the OLD code (`filter_map(..).collect()`: the last pair with a given key wins, before c462df9) the two
iteration orders of the same two-element `deferred` table give different results -/
theorem old_resetRemove_order_dependent :
    Witness.resetRemoveOld Witness.rrBefore Witness.ctx7 false ≠ Witness.resetRemoveOld Witness.rrBefore Witness.ctx7 true := by
  decide +kernel

/-- … while the current code, run on the reversed table (and with reversed `extend` orders), gives the model's result
(an instance of `orswot_resetRemove_order_free`, checked by evaluation) -/
example :
    resetRemoveO Witness.rrBefore
      ⟨Witness.rrBefore.entries.l.reverse, (Witness.rrBefore.deferred.l.map (fun p => (p, p.2.l.reverse))).reverse⟩
      Witness.ctx7 = Witness.rrBefore.resetRemove Witness.ctx7 := by decide +kernel

end Crdt.IterOrder
