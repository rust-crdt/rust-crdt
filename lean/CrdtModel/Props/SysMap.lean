import CrdtModel.Proofs.SysMap
import CrdtModel.Props.C05NestedOrswot
/-!
# Map theorems for every execution of the system – NO well-formedness hypothesis

`Run ops Allowed c` : `c` is a configuration of a system of `Map<K, V, A>` replicas (ANY value type `ops`, closures restricted by
`Allowed`) in which every op was produced by `Map::update` / `Map::rm` from the issuing replica's current state
(`Spec/SysMap.lean`).  `c.View s L` : `s` is one of `c`'s replica states or saved states, `L` the ops it has learned.

Three layers: the key level (every value type, every closure, merges and saved states included) – the invariant read on runs and
the theorems of C05 / C07 without their `LogWF` / `Reach` hypotheses; `Map<K, Orswot<M,A>, A>` with the Orswot API closures –
`NLogWF` of the log, merges included (`run_nlogWF`, with the invariant in `Proofs/SysMap.lean`); the causal, op-only sub-system
`RunC` – the nested theorems of `Props/C05NestedOrswot.lean` without their `NLogWF` / `ReachC` hypotheses.

The key-level merge laws, union and absorption for `Map` (`C02.map_keys_merge_*`, `C03.map_keys_merge_is_union`, `C09.map_keys_*`,
Props/Addenda.lean) have no `run_` version here: they apply to a run through `run_logWF` and `run_view_reach`.
-/
namespace Crdt.SysMap
open OrswotSpec CMap

section generic
variable {K V VOp A : Type} [LinOrd K] [LinOrd A] {ops : ValOps V VOp A} {Allowed : (V → AddCtx A → VOp) → Prop}
  {c : Cfg K V VOp A} {s s' : CMap K V A} {L L' : List (MapOp K VOp A)}

/-! ## the invariant (`SysInv`, Proofs/SysMap.lean) read on runs -/

/-- (a) the key-level log of every run is well-formed -/
theorem run_logWF (r : Run ops Allowed c) : LogWF (keyLog c.log) := (sysInv_run r).wf

/-- (b) every replica state of every run is `CMap.Reach`-derivable over the run's log, with the replica's knowledge -/
theorem run_reach (r : Run ops Allowed c) (i : A) : CMap.Reach ops c.log (c.rep i) (c.know i) := (sysInv_run r).reach i

theorem run_reach_snap (r : Run ops Allowed c) {p : CMap K V A × List (MapOp K VOp A)} (hp : p ∈ c.snaps) :
    CMap.Reach ops c.log p.1 p.2 := (sysInv_run r).snaps p hp

theorem run_view_reach (r : Run ops Allowed c) (v : c.View s L) : CMap.Reach ops c.log s L := (sysInv_run r).view v

/-- (c) an actor's replica knows all of that actor's updates -/
theorem run_own_known (r : Run ops Allowed c) (i : A) (d : Dot A) (k : K) (o : VOp) (h : MapOp.up d k o ∈ c.log)
    (ha : d.actor = i) : MapOp.up d k o ∈ c.know i := (sysInv_run r).own i d k o h ha

theorem run_know_sub_log (r : Run ops Allowed c) (v : c.View s L) : ∀ x ∈ L, x ∈ c.log := (run_view_reach r v).sub

theorem run_dot_pos (r : Run ops Allowed c) {d : Dot A} {k : K} {o : VOp} (h : MapOp.up d k o ∈ c.log) : 0 < d.counter :=
  (sysInv_run r).dots.pos _ h d rfl

/-- (d) a dot names one update (key and nested op) -/
theorem run_dots_unique (r : Run ops Allowed c) : DotsUnique c.log := (sysInv_run r).dots_unique

/-- (d) per actor, the update counters of the log are exactly `1 ..` the replica clock of `i` at `i` -/
theorem run_contig (r : Run ops Allowed c) (i : A) (n : Nat) :
    (∃ k o, MapOp.up ⟨i, n⟩ k o ∈ c.log) ↔ (0 < n ∧ n ≤ (c.rep i).clock.get i) := by
  have inv := sysInv_run r
  rewrite [(inv.reach i).clock inv.wf, ← mem_upDot]
  exact inv.dots.contig_iff (inv.top i) n

/-! ## key-level corollaries (every value type, every nesting depth) -/

/-- **C05.key_present_iff** at any replica / saved state of any run -/
theorem run_key_present_iff (r : Run ops Allowed c) (v : c.View s L) (k : K) :
    (s.get k).val.isSome = true ↔
      ∃ d o, MapOp.up d k o ∈ L ∧ 0 < d.counter ∧
        ∀ cl ks, MapOp.rm cl ks ∈ L → k ∈ ks → cl.get d.actor < d.counter :=
  C05.key_present_iff (run_logWF r) (run_view_reach r v) k

/-- positivity is part of the invariant, so it can be dropped -/
theorem run_key_present_iff' (r : Run ops Allowed c) (v : c.View s L) (k : K) :
    (s.get k).val.isSome = true ↔
      ∃ d o, MapOp.up d k o ∈ L ∧ ∀ cl ks, MapOp.rm cl ks ∈ L → k ∈ ks → cl.get d.actor < d.counter := by
  rewrite [run_key_present_iff r v k]
  constructor
  · rintro ⟨d, o, h, _, hc⟩; exact ⟨d, o, h, hc⟩
  · rintro ⟨d, o, h, hc⟩; exact ⟨d, o, h, run_dot_pos r (run_know_sub_log r v _ h), hc⟩

/-- **update wins** -/
theorem run_update_wins (r : Run ops Allowed c) (v : c.View s L) {d : Dot A} {k : K} {o : VOp} (hin : MapOp.up d k o ∈ L)
    (hcov : ∀ cl ks, MapOp.rm cl ks ∈ L → k ∈ ks → cl.get d.actor < d.counter) : (s.get k).val.isSome = true :=
  (run_key_present_iff' r v k).mpr ⟨d, o, hin, hcov⟩

/-- a key all of whose known updates are covered by known removes of it is absent -/
theorem run_removed_if_all_covered (r : Run ops Allowed c) (v : c.View s L) (k : K)
    (hall : ∀ d o, MapOp.up d k o ∈ L → ∃ cl ks, MapOp.rm cl ks ∈ L ∧ k ∈ ks ∧ d.counter ≤ cl.get d.actor) :
    (s.get k).val = none :=
  C05.removed_if_all_covered (run_logWF r) (run_view_reach r v) k (fun d o h _ => hall d o h)

/-- `get(k).rm_clock` = exactly the surviving update witnesses of `k` -/
theorem run_get_rm_clock (r : Run ops Allowed c) (v : c.View s L) (k : K) (a : A) :
    (s.get k).rmClock.get a = E (keyLog L) k a := C05.get_rm_clock (run_logWF r) (run_view_reach r v) k a

/-- pending key removes are remembered exactly -/
theorem run_deferred_iff (r : Run ops Allowed c) (v : c.View s L) (cl : VClock A) :
    (s.deferred.get? cl).isSome = true ↔ ((∃ ks, MapOp.rm cl ks ∈ L) ∧ ∃ a, cl.get a > clk (keyLog L) a) :=
  C05.deferred_iff (run_logWF r) (run_view_reach r v) cl

/-- equal delivered sets ⇒ equal key-level state, for any two replicas / saved states of a run -/
theorem run_keys_converge (r : Run ops Allowed c) (v : c.View s L) (v' : c.View s' L') (e : ∀ o, o ∈ L ↔ o ∈ L') :
    s.clock = s'.clock ∧ s.deferred = s'.deferred ∧
      ∀ k, (s.get k).val.isSome = (s'.get k).val.isSome ∧ (s.get k).rmClock = (s'.get k).rmClock :=
  C05.keys_converge (run_logWF r) (run_view_reach r v) (run_view_reach r v') e

/-- the key level of every state of every run IS the executable Orswot specification of the key-level knowledge -/
theorem run_keys_eq_spec (r : Run ops Allowed c) (v : c.View s L) : s.keysView = specState (keyLog L) :=
  C05.keys_eq_spec (run_logWF r) (run_view_reach r v)

/-- **C07 freshness**: the dot `read_ctx().derive_add_ctx(i)` yields at `i` is carried by NO update of the log -/
theorem run_fresh_dot (r : Run ops Allowed c) (i : A) :
    ∀ k o, MapOp.up ((c.rep i).readCtx.deriveAddCtx i).dot k o ∉ c.log := by
  have inv := sysInv_run r
  exact fun k o hin => (inv.top i).next_unused _ (inv.derived_dot i ▸ hin) rfl

end generic

section nested
variable {K M A : Type} [LinOrd K] [LinOrd M] [LinOrd A] {c : NCfg K M A}

/-- every run of the causal op-only system is a run of the full system: everything above applies to it -/
theorem runC_toRun (r : RunC c) : NRun c := runC_run r

/-- every replica state of every run of the causal op-only system is `ReachC`-derivable over the run's log -/
theorem runC_reachC (r : RunC c) (i : A) : ReachC c.log (c.rep i) (c.know i) := allC_run r i

/-- **C05 nested witnesses**, hypothesis-free -/
theorem runC_nested_witnesses (r : RunC c) (i : A) (k : K) (m : M) (a : A) :
    Orswot.entryGet ((((c.rep i).get k).val).getD Orswot.init).entries m a = E2 (c.know i) k m a :=
  C05.nested_orswot_witnesses (run_nlogWF (runC_toRun r)) (runC_reachC r i) k m a

/-- **C05 observed-remove membership of the nested set**, hypothesis-free: at any replica of any causal run, `m` is read under
`k` iff the replica knows a nested add of `m` under `k` that no known nested remove of `m` under `k` and no known key remove of
`k` covers -/
theorem runC_nested_member_iff (r : RunC c) (i : A) (k : K) (m : M) :
    (∃ v, ((c.rep i).get k).val = some v ∧ m ∈ v.read.val) ↔
      ∃ d d' ms, MapOp.up d k (OrswotOp.add d' ms) ∈ c.know i ∧ m ∈ ms ∧
        (∀ d2 c' ms', MapOp.up d2 k (OrswotOp.rm c' ms') ∈ c.know i → m ∈ ms' → c'.get d.actor < d.counter) ∧
        (∀ cl ks, (MapOp.rm cl ks : NOp K M A) ∈ c.know i → k ∈ ks → cl.get d.actor < d.counter) :=
  C05.nested_orswot_member_iff (run_nlogWF (runC_toRun r)) (runC_reachC r i) k m

/-- **everything the remover had seen is gone** -/
theorem runC_key_remove_wipes_seen (r : RunC c) (i : A) (k : K) (m : M) {cl : VClock A} {ks : List K}
    (hrm : (MapOp.rm cl ks : NOp K M A) ∈ c.know i) (hk : k ∈ ks)
    (hseen : ∀ d d' ms, MapOp.up d k (OrswotOp.add d' ms) ∈ c.know i → m ∈ ms → d.counter ≤ cl.get d.actor) :
    ¬ ∃ v, ((c.rep i).get k).val = some v ∧ m ∈ v.read.val :=
  C05.key_remove_wipes_seen (run_nlogWF (runC_toRun r)) (runC_reachC r i) k m hrm hk hseen

/-- **what the removers had not seen remains** -/
theorem runC_unseen_add_survives (r : RunC c) (i : A) {k : K} {m : M} {d d' : Dot A} {ms : List M}
    (hin : MapOp.up d k (OrswotOp.add d' ms) ∈ c.know i) (hm : m ∈ ms)
    (hn : ∀ d2 c' ms', MapOp.up d2 k (OrswotOp.rm c' ms') ∈ c.know i → m ∈ ms' → c'.get d.actor < d.counter)
    (hk : ∀ cl ks, (MapOp.rm cl ks : NOp K M A) ∈ c.know i → k ∈ ks → cl.get d.actor < d.counter) :
    ∃ v, ((c.rep i).get k).val = some v ∧ m ∈ v.read.val :=
  C05.unseen_add_survives (run_nlogWF (runC_toRun r)) (runC_reachC r i) hin hm hn hk

/-- **the nested reads converge**: two replicas of a causal run that have learned the same ops read, under every key, the same
nested members and the same `contains` answers and remove contexts -/
theorem runC_nested_reads_converge (r : RunC c) (i j : A) (e : ∀ o, o ∈ c.know i ↔ o ∈ c.know j) (k : K) :
    ((c.rep i).get k).val.map (fun v => v.read.val) = ((c.rep j).get k).val.map (fun v => v.read.val) ∧
    ∀ m, ((c.rep i).get k).val.map (fun v => ((v.contains m).val, (v.contains m).rmClock)) =
         ((c.rep j).get k).val.map (fun v => ((v.contains m).val, (v.contains m).rmClock)) :=
  C05.nested_orswot_reads_converge (run_nlogWF (runC_toRun r)) (runC_reachC r i) (runC_reachC r j) e k

theorem runC_map_deferred_empty (r : RunC c) (i : A) : (c.rep i).deferred = ∅ :=
  C05.map_deferred_empty (run_nlogWF (runC_toRun r)) (runC_reachC r i)

/-- the contexts `update` (with `read_ctx`) and `rm` (with `get`) build at a replica of a causal run are dominated by that replica's
clock – so the op satisfies the causal premise at its origin (this is what makes `RunC` closed under generation; the third generator,
`rm` with `read_ctx`: `ctxOk_rmKeyRead`, Proofs/SysMap.lean) -/
theorem runC_generated_ctxOk (r : RunC c) (i : A) (k : K) {f : Orswot M A → AddCtx A → OrswotOp M A} (hf : NestedGen f) :
    CtxOk (c.know i) (CMap.update Orswot.valOps (c.rep i) k ((c.rep i).readCtx.deriveAddCtx i) f) ∧
    CtxOk (c.know i) (CMap.rm k ((c.rep i).get k).deriveRmCtx : NOp K M A) :=
  ⟨ctxOk_update (run_nlogWF (runC_toRun r)) (runC_reachC r i) k _ hf, ctxOk_rmKey (run_nlogWF (runC_toRun r)) (runC_reachC r i) k⟩

end nested

/-! ## non-vacuity: a concrete 5-step causal run of `Map<Nat, Orswot<Nat,Nat>, Nat>` built with the `StepC` constructors

Actors 1 and 2.  1 adds member 7 under key 10; the op is delivered to 2; then CONCURRENTLY 2 removes key 10 (context read with
`get`) and 1 adds member 8 under key 10; finally 2's key remove is delivered to 1.  What the remover had seen (7) is gone, what
it had not seen (8) stays. -/
abbrev XCfg := NCfg Nat Nat Nat
abbrev xops : ValOps (Orswot Nat Nat) (OrswotOp Nat Nat) Nat := Orswot.valOps

def a1 : NOp Nat Nat Nat := .up ⟨1, 1⟩ 10 (.add ⟨1, 1⟩ [7])
def r2 : NOp Nat Nat Nat := .rm (VClock.ofDot ⟨1, 1⟩) [10]
def a2 : NOp Nat Nat Nat := .up ⟨1, 2⟩ 10 (.add ⟨1, 2⟩ [8])

def ex0 : XCfg := Cfg.init
def ex1 : XCfg := ex0.gen xops 1 (CMap.update xops (ex0.rep 1) 10 ((ex0.rep 1).readCtx.deriveAddCtx 1) (fun _ ctx => Orswot.add 7 ctx))
def ex2 : XCfg := ex1.deliver xops 2 a1
def ex3 : XCfg := ex2.gen xops 2 (CMap.rm 10 ((ex2.rep 2).get 10).deriveRmCtx)
def ex4 : XCfg := ex3.gen xops 1 (CMap.update xops (ex3.rep 1) 10 ((ex3.rep 1).readCtx.deriveAddCtx 1) (fun _ ctx => Orswot.add 8 ctx))
def ex5 : XCfg := ex4.deliver xops 1 r2

theorem ex4_log : ex4.log = [a2, r2, a1] := rfl
theorem ex4_know1 : ex4.know 1 = [a2, a1] := rfl

theorem ex_runC : RunC ex5 := by
  have r1 : RunC ex1 := .step .init (.update ex0 1 10 _ (.add 7))
  have r2' : RunC ex2 := .step r1 (.deliver ex1 2 a1 List.mem_cons_self
    (predsIn_one (List.forall_mem_map.mpr (sysInv_run (runC_toRun r1)).dots.pos) 1) trivial)
  have r3 : RunC ex3 := .step r2' (.rmKey ex2 2 10)
  have r4 : RunC ex4 := .step r3 (.update ex3 1 10 _ (.add 8))
  refine .step r4 (.deliver ex4 1 r2 ?_ trivial ?_)
  · rewrite [ex4_log]; simp
  · rewrite [ex4_know1]
    exact C05.NestedOrswotExample.ctx_ofDot _ (by decide +kernel)

/-- what the two replicas read at the end -/
example : ((ex5.rep 1).get 10).val.map (fun v => v.read.val) = some [8] ∧ ((ex5.rep 2).get 10).val.isSome = false := by decide +kernel
/-- the hypothesis-free theorems apply to it -/
example : ¬ ∃ v, ((ex5.rep 1).get 10).val = some v ∧ 7 ∈ v.read.val :=
  runC_key_remove_wipes_seen ex_runC 1 10 7 (cl := VClock.ofDot ⟨1, 1⟩) (ks := [10]) (.head _) (.head _) (by
    -- `ex5.know 1 = [r2, a2, a1]`: `a2` adds 8, not 7; `r2`'s context has seen `a1`
    rintro d d' ms (_ | ⟨_, _ | ⟨_, _ | ⟨_, ⟨⟩⟩⟩⟩) hm
    · exact absurd hm (by decide)
    · decide)
example : NLogWF ex5.log := run_nlogWF (runC_toRun ex_runC)

end Crdt.SysMap
