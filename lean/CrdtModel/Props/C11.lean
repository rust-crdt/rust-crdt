import CrdtModel.Proofs.Lattice
/-!
# C11 — counters, LWW/Max/Min registers and GSet compute their exact aggregate

Hypothesis everywhere: `Reach U s K` (Spec/RepSys.lean) with no delivery discipline (`Ok := True`): `s` is the state of
any replica or snapshot of any history over `U`, `K` the list of ops it has learned (for LWWReg under the property's
premise that a marker is used once).
Conclusions are exact values as functions of `K` (PNCounter's closed form: `pncounter_read_closed`,
Props/Addenda.lean); the sum of `gcounter_read` runs over the actors stored in the state,
which `gcounter_actor_present` says are those with a non-zero total in `K`.
-/
namespace Crdt.C11
open RepSys

section counters
variable {α : Type} [LinOrd α] {U : List (Dot α)}

/-- GCounter: per actor, the state holds the largest running total learned from that actor … -/
theorem gcounter_entry {s : GCounter α} {K : List (Dot α)} (h : gcounterSys.Reach U s K) (a : α) :
    s.inner.get a = listMax (ctrOf a) K :=
  (reach_rep (R := gcounterSys) trivial h).2.2 a

/-- … and `read` is the sum of these over the actors present (exactly the actors with a non-zero total) -/
theorem gcounter_read {s : GCounter α} {K : List (Dot α)} (h : gcounterSys.Reach U s K) :
    s.read = ((s.inner.dots.l.map (·.1)).map (fun a => listMax (ctrOf a) K)).sum := by
  rw [GCounter.read_eq, VClock.sumVals_dots, funext (reach_rep (R := gcounterSys) trivial h).2.2]

theorem gcounter_actor_present {s : GCounter α} {K : List (Dot α)} (h : gcounterSys.Reach U s K) (a : α) :
    (s.inner.dots.get? a).isSome = true ↔ 0 < listMax (ctrOf a) K := by
  have rep := (reach_rep (R := gcounterSys) trivial h).2
  rewrite [← rep.2 a, rep.1.get?_eq a]
  split <;> simp [*, Nat.pos_iff_ne_zero]

/-- never decreasing, whatever arrives -/
theorem gcounter_monotone (s : GCounter α) (d : Dot α) : s.read ≤ (s.apply d).read := by
  by_cases h : s.inner.get d.actor < d.counter
  · rewrite [GCounter.read_apply_new s d h]; exact Nat.le_add_right _ _
  · rewrite [GCounter.apply, VClock.apply, if_neg h]; exact Nat.le_refl _

/-- generation: `inc` / `inc_many(a, k)` carry `a`'s running total plus the step, so applying them at the origin
adds exactly `1` / `k` – no increment is lost or counted twice -/
theorem gcounter_inc_many (s : GCounter α) (a : α) (k : Nat) : (s.incMany a k).counter = s.inner.get a + k := by
  simp [GCounter.incMany, Nat.add_comm]
theorem gcounter_inc (s : GCounter α) (a : α) : (s.inc a).counter = s.inner.get a + 1 := rfl
theorem gcounter_apply_inc_many (s : GCounter α) (a : α) (k : Nat) (hk : 0 < k) :
    (s.apply (s.incMany a k)).read = s.read + k := by
  rewrite [GCounter.read_apply_new s (s.incMany a k) (Nat.lt_add_of_pos_left hk)]
  exact congrArg _ (Nat.add_sub_cancel ..)

/-- any two replicas/snapshots that learned the same increments read the same value -/
theorem gcounter_converge {s s' : GCounter α} {K K' : List (Dot α)} (h : gcounterSys.Reach U s K)
    (h' : gcounterSys.Reach U s' K') (e : ∀ o, o ∈ K ↔ o ∈ K') : s.read = s'.read := by
  rw [converge (R := gcounterSys) trivial h h' e]

variable {V : List (PNOp α)}

/-- PNCounter: increments total minus decrements total, each the per-actor maximum learned -/
theorem pncounter_entries {s : PNCounter α} {K : List (PNOp α)} (h : pncounterSys.Reach V s K) (a : α) :
    s.p.inner.get a = listMax (dirCtr .pos a) K ∧ s.n.inner.get a = listMax (dirCtr .neg a) K :=
  let r := (reach_rep (R := pncounterSys) trivial h).2
  ⟨r.1.2 a, r.2.2 a⟩

theorem pncounter_read (s : PNCounter α) : s.read = (s.p.read : Int) - (s.n.read : Int) := rfl

theorem pncounter_converge {s s' : PNCounter α} {K K' : List (PNOp α)} (h : pncounterSys.Reach V s K)
    (h' : pncounterSys.Reach V s' K') (e : ∀ o, o ∈ K ↔ o ∈ K') : s.read = s'.read := by
  rw [converge (R := pncounterSys) trivial h h' e]

theorem pncounter_apply_inc_many (s : PNCounter α) (a : α) (k : Nat) (hk : 0 < k) :
    (s.apply (s.incMany a k)).read = s.read + k := by
  simp only [PNCounter.read, PNCounter.apply, PNCounter.incMany, gcounter_apply_inc_many s.p a k hk, Int.natCast_add]
  -- `p + k - n = p - n + k`, where `x - n` is `x + -n`
  exact Int.add_right_comm ..

theorem pncounter_apply_dec_many (s : PNCounter α) (a : α) (k : Nat) (hk : 0 < k) :
    (s.apply (s.decMany a k)).read = s.read - k := by
  simp only [PNCounter.read, PNCounter.apply, PNCounter.decMany, gcounter_apply_inc_many s.n a k hk, Int.natCast_add,
    Int.sub_sub]

end counters

section registers
variable {ν : Type} [LinOrd ν]

/-- MaxReg reads the largest of the initial value and every applied value -/
theorem maxreg_read (v0 : ν) {U K : List ν} {s : MaxReg ν} (h : (maxregSys v0).Reach U s K) :
    (s.read = v0 ∨ s.read ∈ K) ∧ ¬ s.read < v0 ∧ ∀ w ∈ K, ¬ s.read < w :=
  (reach_rep (R := maxregSys v0) trivial h).2

/-- MinReg reads the smallest -/
theorem minreg_read (v0 : ν) {U K : List ν} {s : MinReg ν} (h : (minregSys v0).Reach U s K) :
    (s.read = v0 ∨ s.read ∈ K) ∧ ¬ v0 < s.read ∧ ∀ w ∈ K, ¬ w < s.read :=
  (reach_rep (R := minregSys v0) trivial h).2

variable {τ μ : Type} [DecidableEq τ] [LinOrd μ]

/-- LWWReg holds the write with the greatest marker (markers unique per write) -/
theorem lwwreg_read (r0 : LWWReg τ μ) {U K : List (LWWReg τ μ)} {s : LWWReg τ μ} (wf : UniqueMarkers r0 U)
    (h : (lwwSys r0).Reach U s K) :
    (s = r0 ∨ s ∈ K) ∧ ¬ s.marker < r0.marker ∧ ∀ o ∈ K, ¬ s.marker < o.marker :=
  (reach_rep (R := lwwSys r0) wf h).2

theorem lwwreg_converge (r0 : LWWReg τ μ) {U K K' : List (LWWReg τ μ)} {s s' : LWWReg τ μ} (wf : UniqueMarkers r0 U)
    (h : (lwwSys r0).Reach U s K) (h' : (lwwSys r0).Reach U s' K') (e : ∀ o, o ∈ K ↔ o ∈ K') : s = s' :=
  converge (R := lwwSys r0) wf h h' e

/-- an equal marker with a different value is flagged as a conflict, and nothing else is -/
theorem lwwreg_conflict_iff (s : LWWReg τ μ) (val : τ) (marker : μ) :
    s.validateUpdate val marker = .error .conflictingMarker ↔ (s.marker = marker ∧ val ≠ s.val) := by
  unfold LWWReg.validateUpdate; split <;> simp [*]

end registers

section gset
variable {τ : Type} [LinOrd τ]

/-- GSet reads the union of the inserted elements -/
theorem gset_read {U K : List τ} {s : GSet τ} (h : gsetSys.Reach U s K) (x : τ) : s.contains x = true ↔ x ∈ K :=
  (reach_rep (R := gsetSys) trivial h).2 x

theorem gset_read_list {U K : List τ} {s : GSet τ} (h : gsetSys.Reach U s K) (x : τ) : x ∈ s.read ↔ x ∈ K := by
  rewrite [← gset_read h x]; exact FMap.mem_keys_iff

end gset

/-! ## non-vacuity -/
def exU : List (Dot Nat) := [⟨1, 2⟩, ⟨2, 5⟩, ⟨1, 3⟩]
/-- a replica that got actor 1's second op twice and merged a peer that only saw actor 2 -/
example : ∃ s K, (gcounterSys (α := Nat)).Reach exU s K ∧ s.read = 8 := by
  refine ⟨_, _, Reach.merge (Reach.apply (Reach.apply (Reach.apply Reach.init (op := ⟨1, 3⟩) (by decide) trivial)
      (op := ⟨1, 2⟩) (by decide) trivial) (op := ⟨1, 3⟩) (by decide) trivial)
      (Reach.apply Reach.init (op := ⟨2, 5⟩) (by decide) trivial), ?_⟩
  decide +kernel

end Crdt.C11
