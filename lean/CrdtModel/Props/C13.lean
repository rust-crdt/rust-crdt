import CrdtModel.Proofs.GList
import CrdtModel.Proofs.List
import CrdtModel.Spec.GListSys
/-!
# C13 — List and GList edits land at the requested index (`read` changes by `List.insertIdx` / `List.eraseIdx`)

Everything is stated for ALL states (any length, any identifiers), under the one invariant `IdsNonEmpty`
(no stored identifier is the empty path):

* `List`: `apply` panics on an insert op with the empty identifier (`list_apply_panics_iff`), so the invariant holds in
  every state reachable from `new` by applying ARBITRARY ops (`list_ids_nonempty_reachable`), in particular API ops;
  it can only be violated by deserialising a hand-made state (witness `list_empty_id_breaks_append`).
* `GList`: `read` itself panics when the empty identifier is stored, so the read-level theorems take `g.read = some vs`
  (which implies the invariant); API-built ops never carry the empty identifier (`glist_api_ids_nonempty`).

Rust panics are modelled explicitly: `GList.insert : Option` (`none` = `assert!(idx <= len)` fails),
`ListCrdt.apply? : Option` (`none` = `Op::dot()` unwraps the last marker of an empty identifier).
-/
namespace Crdt.C13
open Identifier

section list
variable {τ α : Type} [LinOrd α]
open ListCrdt

abbrev IdsNonEmpty (s : ListCrdt τ α) : Prop := ListCrdt.IdsNonEmpty s

/-- the op built by `insert_index` carries the actor's NEXT dot … -/
theorem list_insert_index_dot (s : ListCrdt τ α) (ix : Nat) (x : τ) (a : α) :
    (s.insertIndex ix x a).dot = some (s.clock.inc a) ∧ (s.clock.inc a).counter = s.clock.get a + 1 :=
  ⟨insertIndex_dot s ix x a, rfl⟩

/-- … hence at its origin it is never gated by `if op_dot.counter <= self.clock.get(&op_dot.actor) { return }` -/
theorem list_insert_index_not_gated (s : ListCrdt τ α) (a : α) :
    ¬ (s.clock.inc a).counter ≤ s.clock.get (s.clock.inc a).actor := s.clock.inc_not_gated a

/-- **insert lands at the requested index**: `read(apply(s, insert_index(i, x, a))) = read(s).insert(min(i, len), x)`;
all other entries (identifier and value) are untouched and keep their order, the new identifier was absent,
the actor's clock entry advances by one, and the invariant is preserved (`hs` is needed at the END position only:
`list_empty_id_breaks_append`) -/
theorem list_insert_index (s : ListCrdt τ α) (hs : IdsNonEmpty s) (ix : Nat) (x : τ) (a : α) :
    ∃ (n : Identifier (OrdDot α)) (s' : ListCrdt τ α),
      s.insertIndex ix x a = .insert n x ∧ s.get n = none ∧
      s.apply? (s.insertIndex ix x a) = some s' ∧
      s'.read = s.read.insertIdx (min ix s.len) x ∧
      s'.iterEntries = s.iterEntries.insertIdx (min ix s.len) (n, x) ∧
      s'.len = s.len + 1 ∧
      s'.clock = s.clock.apply (s.clock.inc a) ∧
      IdsNonEmpty s' := by
  obtain ⟨hlo, hhi⟩ := between_at s.keys_sorted (min ix s.len) (fun _ p hp => hs p (mem_of_prevAt hp))
    (OrdDot.ofDot (s.clock.inc a))
  have hdot := insertIndex_dot s ix x a
  rewrite [insertIndex_eq] at hdot ⊢
  generalize between (prevAt s.keys (min ix s.len)) s.keys[min ix s.len]? (OrdDot.ofDot (s.clock.inc a)) = n
    at hlo hhi hdot ⊢
  have hi : min ix s.len ≤ s.seq.l.length := Nat.min_le_right ix s.len
  obtain ⟨hat, hnone⟩ := AL.insert_at s.seq.sorted (min ix s.len) x hi hlo hhi
  have hap : s.apply? (.insert n x) = some ⟨s.seq.insert n x, s.clock.apply (s.clock.inc a)⟩ := by
    rewrite [apply?_of_dot s hdot, if_neg (VClock.inc_not_gated _ a)]
    exact congrArg (fun q => some (ListCrdt.mk q (s.clock.apply (s.clock.inc a)))) (insertEntry_of_get?_none hnone x)
  refine ⟨n, _, rfl, hnone, hap, ?_, hat, ?_, rfl, idsNonEmpty_apply? hs hap⟩
  · exact (congrArg (List.map (·.2)) hat).trans (map_insertIdx _ _ _ _)
  · exact (congrArg List.length hat).trans (List.length_insertIdx_of_le_length hi _)

/-- headline form: the `read` clause alone, for the total `apply` -/
theorem list_insert_index_read (s : ListCrdt τ α) (hs : IdsNonEmpty s) (ix : Nat) (x : τ) (a : α) :
    (s.apply (s.insertIndex ix x a)).read = s.read.insertIdx (min ix s.len) x := by
  obtain ⟨_, s', _, _, h3, h4, _⟩ := list_insert_index s hs ix x a
  rewrite [apply_of_apply? h3]
  exact h4

theorem list_insert_index_beyond_end (s : ListCrdt τ α) (hs : IdsNonEmpty s) {ix : Nat} (h : s.len ≤ ix) (x : τ) (a : α) :
    ∃ s', s.apply? (s.insertIndex ix x a) = some s' ∧ s'.read = s.read ++ [x] := by
  obtain ⟨_, s', _, _, h3, h4, _⟩ := list_insert_index s hs ix x a
  exact ⟨s', h3, by rw [h4, Nat.min_eq_right h, len_eq_read, List.insertIdx_length_self]⟩

/-- `append` puts the element last -/
theorem list_append (s : ListCrdt τ α) (hs : IdsNonEmpty s) (x : τ) (a : α) :
    ∃ s', s.apply? (s.append x a) = some s' ∧ s'.read = s.read ++ [x] :=
  list_insert_index_beyond_end s hs (Nat.le_refl _) x a

/-- **delete removes exactly the i-th element and nothing else** (needs no invariant) -/
theorem list_delete_index (s : ListCrdt τ α) {ix : Nat} (h : ix < s.len) (a : α) :
    ∃ (op : ListOp τ α) (s' : ListCrdt τ α),
      s.deleteIndex ix a = some op ∧ op.dot = some (s.clock.inc a) ∧
      s.apply? op = some s' ∧
      s'.read = s.read.eraseIdx ix ∧
      s'.iterEntries = s.iterEntries.eraseIdx ix ∧
      s'.len = s.len - 1 ∧
      s'.clock = s.clock.apply (s.clock.inc a) := by
  have hl : ix < s.seq.l.length := h
  have hat := AL.erase_at s.seq.sorted ix hl
  have hk : s.keys[ix]? = some s.seq.l[ix].1 := (List.getElem?_map ..).trans (congrArg _ (List.getElem?_eq_getElem hl))
  generalize s.seq.l[ix] = e at hat hk
  refine ⟨_, ⟨s.seq.erase e.1, s.clock.apply (s.clock.inc a)⟩, deleteIndex_eq_some_iff.mpr ⟨_, hk, rfl⟩, rfl,
    ?_, ?_, hat, ?_, rfl⟩
  · rw [apply?_of_dot s (d := s.clock.inc a) rfl, if_neg (VClock.inc_not_gated _ a)]
  · exact (congrArg (List.map (·.2)) hat).trans (map_eraseIdx _ _ _)
  · exact (congrArg List.length hat).trans (List.length_eraseIdx_of_lt hl)

theorem list_delete_index_read (s : ListCrdt τ α) {ix : Nat} (h : ix < s.len) (a : α) :
    ∃ op, s.deleteIndex ix a = some op ∧ (s.apply op).read = s.read.eraseIdx ix := by
  obtain ⟨op, s', h1, _, h3, h4, _⟩ := list_delete_index s h a
  exact ⟨op, h1, by rewrite [apply_of_apply? h3]; exact h4⟩

/-- `delete_index` out of range yields no op -/
theorem list_delete_index_out_of_range (s : ListCrdt τ α) {ix : Nat} (h : s.len ≤ ix) (a : α) :
    s.deleteIndex ix a = none := by
  rewrite [deleteIndex, List.getElem?_eq_none_iff.mpr (len_eq s ▸ h)]; rfl

/-- `apply` panics exactly on an insert op that carries the empty identifier (`validate_op` does too:
`C16.list_validate_panics_iff`) -/
theorem list_apply_panics_iff (s : ListCrdt τ α) (op : ListOp τ α) :
    s.apply? op = none ↔ ∃ v, op = .insert ⟨[]⟩ v := by
  rewrite [← ListOp.dot_eq_none_iff]
  cases hd : op.dot with
  | none => simp [apply?, hd]
  | some d =>
    rewrite [apply?_of_dot s hd]
    exact iff_of_false (Option.some_ne_none _) (Option.some_ne_none _)

/-- the invariant holds initially and is preserved by applying ANY op that does not panic -/
theorem list_ids_nonempty_new : IdsNonEmpty (ListCrdt.new : ListCrdt τ α) := fun _ hi => nomatch hi
theorem list_ids_nonempty_apply {s s' : ListCrdt τ α} (hs : IdsNonEmpty s) {op : ListOp τ α}
    (h : s.apply? op = some s') : IdsNonEmpty s' := idsNonEmpty_apply? hs h

/-- states reachable from `new` by applying arbitrary ops (API-generated or not, any order, duplicates) -/
inductive Reachable : ListCrdt τ α → Prop
  | new : Reachable ListCrdt.new
  | apply {s s' : ListCrdt τ α} (op : ListOp τ α) : Reachable s → s.apply? op = some s' → Reachable s'

theorem list_ids_nonempty_reachable {s : ListCrdt τ α} (h : Reachable s) : IdsNonEmpty s := by
  induction h with
  | new => exact list_ids_nonempty_new
  | apply op _ hap ih => exact idsNonEmpty_apply? ih hap

/-- API-generated ops never carry the empty identifier, so applying them never panics -/
theorem list_api_ops_nonempty (s : ListCrdt τ α) :
    (∀ ix x a, (s.insertIndex ix x a).id.path ≠ []) ∧
    (IdsNonEmpty s → ∀ ix a op, s.deleteIndex ix a = some op → op.id.path ≠ []) :=
  ⟨insertIndex_id_nonempty s, fun hs _ _ _ h => deleteIndex_id_nonempty hs h⟩

end list

section glist
variable {τ : Type} [LinOrd τ]
open GList

/-- `insert(idx, x)` with `idx ≤ len` makes `x` the idx-th element, everything else keeps its order
(identifier level: `ids`; element level: `read`); the set grows by exactly one (the identifier is fresh) -/
theorem glist_insert (g : GList τ) {vs : List τ} (hr : g.read = some vs) {idx : Nat} (h : idx ≤ g.len) (x : τ) :
    ∃ op, g.insert idx x = some op ∧
      (g.apply op).ids = g.ids.insertIdx idx op.id ∧
      (g.apply op).read = some (vs.insertIdx idx x) ∧
      (g.apply op).len = g.len + 1 := by
  have h2 := apply_between_at g (len_eq g ▸ h) (fun _ p hp => idsNonEmpty_of_read hr p (mem_of_prevAt hp)) x
  refine ⟨_, insert_eq g h x, h2,
    (congrArg valuesOf h2).trans (valuesOf_insertIdx (value_between_at g.ids_sorted idx x) idx hr), ?_⟩
  rw [len_eq, len_eq, h2, List.length_insertIdx_of_le_length (len_eq g ▸ h)]

/-- `insert` beyond the end: the Rust `assert!` fails -/
theorem glist_insert_panics (g : GList τ) {idx : Nat} (h : g.len < idx) (x : τ) : g.insert idx x = none :=
  if_neg (Nat.not_le.mpr h)

/-- `insert_after(Some(id), x)` for the member `id` at index `k` places `x` immediately after it -/
theorem glist_insert_after (g : GList τ) {vs : List τ} (hr : g.read = some vs) {k : Nat} {id : Identifier τ}
    (hk : g.get k = some id) (x : τ) :
    (g.apply (g.insertAfter (some id) x)).ids = g.ids.insertIdx (k + 1) (g.insertAfter (some id) x).id ∧
    (g.apply (g.insertAfter (some id) x)).read = some (vs.insertIdx (k + 1) x) := by
  rewrite [insertAfter_eq g hk]
  have h2 := apply_between_at g (List.getElem?_eq_some_iff.mp hk).1
    (fun _ p hp => idsNonEmpty_of_read hr p (mem_of_prevAt hp)) x
  exact ⟨h2, (congrArg valuesOf h2).trans (valuesOf_insertIdx (value_between_at g.ids_sorted (k + 1) x) (k + 1) hr)⟩

/-- identifier-level version of `insert_before` needing NO invariant (the upper bound may even be empty) -/
theorem glist_insert_before_ids (g : GList τ) {k : Nat} {id : Identifier τ} (hk : g.get k = some id) (x : τ) :
    (g.apply (g.insertBefore (some id) x)).ids = g.ids.insertIdx k (g.insertBefore (some id) x).id := by
  rewrite [insertBefore_eq g hk]
  exact apply_between_at g (Nat.le_of_lt (List.getElem?_eq_some_iff.mp hk).1) (fun e => by cases hk.symm.trans e) x

/-- `insert_before(Some(id), x)` for the member `id` at index `k` places `x` immediately before it -/
theorem glist_insert_before (g : GList τ) {vs : List τ} (hr : g.read = some vs) {k : Nat} {id : Identifier τ}
    (hk : g.get k = some id) (x : τ) :
    (g.apply (g.insertBefore (some id) x)).ids = g.ids.insertIdx k (g.insertBefore (some id) x).id ∧
    (g.apply (g.insertBefore (some id) x)).read = some (vs.insertIdx k x) :=
  have h2 := glist_insert_before_ids g hk x
  ⟨h2, (congrArg valuesOf h2).trans (valuesOf_insertIdx (insertBefore_value g _ x) k hr)⟩

/-- `read` does not panic iff the invariant holds -/
theorem glist_read_some_iff (g : GList τ) : (∃ vs, g.read = some vs) ↔ GList.IdsNonEmpty g :=
  Option.isSome_iff_exists.symm.trans valuesOf_isSome_iff

/-- API-built ops never carry the empty identifier (`apply` of such ops and `merge` preserve the invariant: below) -/
theorem glist_api_ids_nonempty (g : GList τ) :
    (∀ low x, (g.insertAfter low x).id.path ≠ []) ∧ (∀ high x, (g.insertBefore high x).id.path ≠ []) ∧
    (∀ idx x op, g.insert idx x = some op → op.id.path ≠ []) :=
  ⟨fun low x => ne_nil_of_value (insertAfter_value g low x), fun high x => ne_nil_of_value (insertBefore_value g high x),
    fun _ _ _ h => ne_nil_of_value (insert_value h)⟩

theorem glist_ids_nonempty_new : GList.IdsNonEmpty (GList.new : GList τ) := fun _ hi => nomatch hi
theorem glist_ids_nonempty_apply {g : GList τ} (hg : GList.IdsNonEmpty g) {op : GListOp τ} (hop : op.id.path ≠ []) :
    GList.IdsNonEmpty (g.apply op) := fun i hi => by
  rewrite [mem_ids_iff, has_apply, ← mem_ids_iff] at hi
  exact hi.elim (· ▸ hop) (hg i)
theorem glist_ids_nonempty_merge {g o : GList τ} (hg : GList.IdsNonEmpty g) (ho : GList.IdsNonEmpty o) :
    GList.IdsNonEmpty (g.merge o) := fun i hi => by
  rewrite [mem_ids_iff, has_merge, Bool.or_eq_true, ← mem_ids_iff, ← mem_ids_iff] at hi
  exact hi.elim (hg i) (ho i)

end glist

/-! ## non-vacuity and witnesses -/

/-- two local appends and one insert in the middle, then a delete -/
example :
    let s0 : ListCrdt Nat Nat := ListCrdt.new
    let s1 := s0.apply (s0.append 10 0)
    let s2 := s1.apply (s1.append 20 0)
    let s3 := s2.apply (s2.insertIndex 1 15 1)
    let s4 := s3.apply ((s3.deleteIndex 0 1).getD (s3.append 0 0))
    s3.read = [10, 15, 20] ∧ s4.read = [15, 20] := by decide +kernel

/-- WITNESS (List): the invariant is needed.  A state holding the empty identifier (only obtainable by deserialising
it, `apply` would have panicked) sends `append` to the FRONT: `between(Some([]), None, m) = [0:m] < []`. -/
theorem list_empty_id_breaks_append :
    let s : ListCrdt Nat Nat := ⟨(∅ : FMap _ _).insert ⟨[]⟩ 1, ∅⟩
    (s.apply (s.append 2 0)).read = [2, 1] := by decide +kernel

/-- WITNESS (GList): with the empty identifier stored (raw op), `insert(1, 5)` lands at index 0 -/
theorem glist_empty_id_breaks_insert :
    let g : GList Nat := GList.new.apply (.insert ⟨[]⟩)
    (g.insert 1 5).map (fun op => (g.apply op).ids) = some [⟨[(0, 5)]⟩, ⟨[]⟩] := by decide +kernel

/-- FINDING (GList): `insert_after(None, x)` / `insert_before(None, x)` ignore the list: they always build `[0:x]`,
so repeating the call collides with the first identifier and the second insert is lost -/
theorem glist_insert_none_collides :
    let g0 : GList Nat := GList.new
    let g1 := g0.apply (g0.insertAfter none 5)
    let g2 := g1.apply (g1.insertAfter none 5)
    g1.len = 1 ∧ g2.len = 1 ∧ g2 = g1 := by decide +kernel

example : let g0 : GList Nat := GList.new
    let g1 := g0.apply ((g0.insert 0 7).getD (.insert ⟨[]⟩))
    let g2 := g1.apply ((g1.insert 1 9).getD (.insert ⟨[]⟩))
    let g3 := g2.apply ((g2.insert 1 8).getD (.insert ⟨[]⟩))
    g3.read = some [7, 8, 9] := by decide +kernel

end Crdt.C13
