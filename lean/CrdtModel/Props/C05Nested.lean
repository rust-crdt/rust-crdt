import CrdtModel.Proofs.MapNested
import CrdtModel.Spec.MVReg
/-!
# C05 (nested contents) — the region where the nested contents of a Map provably converge

**The global statement is false** for every nesting (`Map<_,MVReg>`, `Map<_,Orswot>`, `Map<_,Map<..>>`; Props/C05.lean, witness
scripts `witness/map_*_causal_diverge.txt`).  Root cause: a KEY remove resets the nested value with a key-level clock
(`src/map.rs:421`, and `253-256`, `281-301` in `merge`), and that clock is not a dot store of the nested value; a nested op that
arrives after the reset (e.g. a nested Orswot remove whose context the reset has wiped from the nested clock) leaves a residue
at one replica only.  `Example.outside_region_diverges` replays the 3-op Orswot witness by `decide`.  The KEY level
(which keys are present, with which contexts) is correct in general (`C05.key_present_iff`, `CMap.keys_rep`).

**The region proved here: op-only histories without key removes** — `CMap.ReachUp ops U s L` (Proofs/MapNested.lean): `CMap.Reach`
with only `init` and `apply` of updates.  That `deferred` stays empty and that the nested value is the fold of the nested ops
of its key hold for an ARBITRARY value type.  Convergence needs the value type to have a representation system of its own (`RepSys` / `RepSysE`:
Orswot, MVReg, order-free types); **a nested `Map` has none** – an inner
key remove is an OUTER update, so depth-2 Maps diverge even inside this region (`Witness.Depth2Orswot.depth2_diverges_inside_region`,
membership: `reachA`/`reachB`; `Witness.Depth2MVReg.depth2_mvreg_reads_diverge`, membership in prose there) – hence
nothing is claimed for nested contents at depth ≥ 2 beyond the key level of every Map on the way down (`C05.key_present_iff` applies
to an inner Map's keys only where that Map is itself derivable, which outside this region an outer key remove's reset breaks).
The one-liners below give `CMap.*` lemmas of Proofs/MapNested.lean the names the checks cite.
-/
namespace Crdt.C05
open OrswotSpec CMap
section
variable {K V VOp A : Type} [LinOrd K] [LinOrd A]
section generic
variable {ops : ValOps V VOp A} {U L L' : List (MapOp K VOp A)} {s s' : CMap K V A}

/-- every derivation of the region (only `init` and `apply` of updates) is a derivation of the full execution model, so all
key-level theorems of C05 apply to it -/
theorem reachUp_toReach (h : ReachUp ops U s L) : CMap.Reach ops U s L := h.toReach

/-- in the region only updates are delivered (no key remove), all of them from the universe -/
theorem reachUp_log (h : ReachUp ops U s L) : ∀ x ∈ L, x ∈ U ∧ ∃ d k o, x = MapOp.up d k o := by
  induction h with
  | init => exact fun _ hx => absurd hx List.not_mem_nil
  | @apply s L d k o _ hu _ ih => exact List.forall_mem_cons.mpr ⟨⟨hu, d, k, o, rfl⟩, ih⟩

/-- no `.rm` is ever applied, so no key remove is ever pending -/
theorem deferred_stays_empty (h : ReachUp ops U s L) : s.deferred = ∅ := h.deferred_empty

/-- `apply_deferred` (src/map.rs:402-407) with nothing pending is the identity -/
theorem applyDeferred_identity (ops : ValOps V VOp A) (s : CMap K V A) (h : s.deferred = ∅) : CMap.applyDeferred ops s = s :=
  applyDeferred_of_empty ops s h

/-- **the dedup gate of `Map::apply` (`if self.clock.get(&dot.actor) >= dot.counter { return }`) fires exactly when the dot
has already been delivered** – or has counter 0, which no API call produces -/
theorem dedup_gate_iff (wf : LogWF (keyLog U)) (h : ReachUp ops U s L) {d : Dot A} {k : K} {o : VOp} (hu : MapOp.up d k o ∈ U) :
    s.clock.get d.actor ≥ d.counter ↔ (d.counter = 0 ∨ ∃ k' o', MapOp.up d k' o' ∈ L) :=
  h.toReach.gate_iff wf hu

/-- **nested value = fold of the nested ops of that key, in delivery order, each dot applied once** (`nestedOps k L`,
Proofs/MapNested.lean: re-deliveries and counter-0 dots skipped).  `(s.get k).val` is by definition
`(s.entries.get? k).map (·.val)`.  No hypothesis on the value type. -/
theorem nested_eq_fold (wf : LogWF (keyLog U)) (h : ReachUp ops U s L) (k : K) :
    (s.entries.get? k).map (·.val) =
      if nestedOps k L = [] then none else some ((nestedOps k L).foldl ops.apply ops.default) :=
  val_eq_fold wf h k

/-- the same through the read API: `get(k).val`, and the value the closure of `Map::update` receives (the default if absent) -/
theorem get_eq_fold (wf : LogWF (keyLog U)) (h : ReachUp ops U s L) (k : K) :
    (s.get k).val = (if nestedOps k L = [] then none else some ((nestedOps k L).foldl ops.apply ops.default)) ∧
    ((s.get k).val).getD ops.default = (nestedOps k L).foldl ops.apply ops.default :=
  ⟨val_eq_fold wf h k, by
    rewrite [show (s.get k).val = _ from val_eq_fold wf h k]
    split
    · next e => rewrite [e]; rfl
    · rfl⟩

/-- `nestedOps` is the plain "first occurrence of each dot" list (`firstOps`) when every delivered dot has a positive counter
(what `VClock::inc` / `derive_add_ctx` guarantee) -/
theorem nestedOps_eq_first_occurrences (k : K) (L : List (MapOp K VOp A))
    (hpos : ∀ d k' o, MapOp.up d k' o ∈ L → 0 < d.counter) : nestedOps k L = firstOps k L := by
  induction L with
  | nil => rfl
  | cons x L ih =>
    have ih' := ih (fun d k' o h => hpos d k' o (List.mem_cons_of_mem _ h))
    cases x with
    | rm c ks => exact ih'
    | up d k' o => simp only [nestedOps, firstOps, ih', hpos d k' o List.mem_cons_self, true_and]

/-- intended statement with the plain first-occurrences list; it needs positive counters (without them it is false:
`first_occurrences_needs_pos`) -/
theorem nested_eq_fold_first_occurrences (wf : LogWF (keyLog U)) (h : ReachUp ops U s L) (k : K)
    (hpos : ∀ d k' o, MapOp.up d k' o ∈ U → 0 < d.counter) :
    (s.entries.get? k).map (·.val) =
      if firstOps k L = [] then none else some ((firstOps k L).foldl ops.apply ops.default) := by
  rewrite [← nestedOps_eq_first_occurrences k L (fun d k' o hin => hpos d k' o (h.sub _ hin))]
  exact val_eq_fold wf h k

/-- the nested value under `k` (the default if `k` is absent) is a derivable state of the value type's system `R`, over the
nested universe `valU k U` (the nested ops of all updates of `k`), with knowledge `nestedOps k L` (newest first). -/
theorem nested_reach (R : RepSys V VOp) (hA : R.apply = ops.apply) (hI : R.init = ops.default)
    (wf : LogWF (keyLog U)) (k : K) (hOk : NestedOk ops U k R.Ok) (h : ReachUp ops U s L) :
    R.Reach (valU k U) (((s.get k).val).getD ops.default) (nestedOps k L).reverse :=
  CMap.nested_reach R hA hI wf k hOk h

/-- `nested_converge` with the hypothesis on the nested knowledge itself (no uniqueness of dots needed) -/
theorem nested_converge_of_same_nestedOps (R : RepSys V VOp) (hA : R.apply = ops.apply) (hI : R.init = ops.default)
    (wf : LogWF (keyLog U)) (k : K) (wfR : R.WF (valU k U)) (hOk : NestedOk ops U k R.Ok)
    (h : ReachUp ops U s L) (h' : ReachUp ops U s' L')
    (e : ∀ o, o ∈ nestedOps k L ↔ o ∈ nestedOps k L') : (s.get k).val = (s'.get k).val := by
  obtain ⟨hs, hv⟩ := nested_convergeE_of_same_nestedOps R.toE hA hI wf k wfR hOk h h' e
  exact Option.eq_of_isSome_of_getD ops.default hs hv

/-- **nested contents converge in the region**: two replicas (any two derivations over the same universe) that delivered the
same updates of `k` hold EQUAL nested values under `k` (both absent, or both present and equal).
`DotsUnique U`: a dot names one update (`Map::update` with a fresh add context); without it the statement is false
(`dotsUnique_needed`). -/
theorem nested_converge (R : RepSys V VOp) (hA : R.apply = ops.apply) (hI : R.init = ops.default)
    (wf : LogWF (keyLog U)) (hdu : DotsUnique U) (k : K) (wfR : R.WF (valU k U)) (hOk : NestedOk ops U k R.Ok)
    (h : ReachUp ops U s L) (h' : ReachUp ops U s' L')
    (e : ∀ d o, MapOp.up d k o ∈ L ↔ MapOp.up d k o ∈ L') : (s.get k).val = (s'.get k).val :=
  nested_converge_of_same_nestedOps R hA hI wf k wfR hOk h h' (nestedOps_mem_congr hdu k h.sub h'.sub e)

/-- for value types whose system identifies states only up to an equivalence (`RepSysE`, e.g. `MVReg` up to the order of
its `Vec`): same presence, equivalent nested values -/
theorem nested_converge_equiv (R : RepSysE V VOp) (hA : R.apply = ops.apply) (hI : R.init = ops.default)
    (wf : LogWF (keyLog U)) (hdu : DotsUnique U) (k : K) (wfR : R.WF (valU k U)) (hOk : NestedOk ops U k R.Ok)
    (h : ReachUp ops U s L) (h' : ReachUp ops U s' L')
    (e : ∀ d o, MapOp.up d k o ∈ L ↔ MapOp.up d k o ∈ L') :
    (s.get k).val.isSome = (s'.get k).val.isSome ∧
      R.Equiv (((s.get k).val).getD ops.default) (((s'.get k).val).getD ops.default) :=
  nested_convergeE_of_same_nestedOps R hA hI wf k wfR hOk h h' (nestedOps_mem_congr hdu k h.sub h'.sub e)

/-- order-free value types (`R.Ok` always true): the discipline hypothesis is trivial -/
theorem nested_converge_orderfree (R : RepSys V VOp) (hA : R.apply = ops.apply) (hI : R.init = ops.default)
    (hfree : ∀ U' K' o, R.Ok U' K' o)
    (wf : LogWF (keyLog U)) (hdu : DotsUnique U) (k : K) (wfR : R.WF (valU k U))
    (h : ReachUp ops U s L) (h' : ReachUp ops U s' L')
    (e : ∀ d o, MapOp.up d k o ∈ L ↔ MapOp.up d k o ∈ L') : (s.get k).val = (s'.get k).val :=
  nested_converge R hA hI wf hdu k wfR (fun _ _ _ _ _ => hfree _ _ _) h h' e
end generic

section orswot
variable {M : Type} [LinOrd M] {U L L' : List (MapOp K (OrswotOp M A) A)} {s s' : CMap K (Orswot M A) A}

/-- **`Map<K, Orswot<M>>`** (value record `Orswot.valOps`, system `orswotSys` whose discipline is "adds of each actor in
order"): the Map-level discipline IMPLIES the nested one, because a nested add made through `Map::update` carries the dot of
the Map op (`NestedOrswotWF.same_dot`); nested removes are unordered.  So without key removes, nested sets converge – nested
deferred removes included (the equality is of whole `Orswot` states). -/
theorem nested_converge_orswot (wf : LogWF (keyLog U)) (hdu : DotsUnique U) (k : K) (hw : NestedOrswotWF k U)
    (h : ReachUp Orswot.valOps U s L) (h' : ReachUp Orswot.valOps U s' L')
    (e : ∀ d o, MapOp.up d k o ∈ L ↔ MapOp.up d k o ∈ L') : (s.get k).val = (s'.get k).val :=
  nested_converge (ops := Orswot.valOps) orswotSys rfl rfl wf hdu k (orswot_valU_wf hdu hw) (orswot_nestedOk hdu hw) h h' e

/-- and the nested set under `k` is what `C04` says of an Orswot that has learned exactly the nested ops of `k` -/
theorem nested_orswot_reach (wf : LogWF (keyLog U)) (hdu : DotsUnique U) (k : K) (hw : NestedOrswotWF k U)
    (h : ReachUp Orswot.valOps U s L) :
    orswotSys.Reach (valU k U) (((s.get k).val).getD Orswot.init) (nestedOps k L).reverse :=
  nested_reach (ops := Orswot.valOps) orswotSys rfl rfl wf k (orswot_nestedOk hdu hw) h
end orswot

section mvreg
variable {ν : Type} [DecidableEq ν] {U L L' : List (MapOp K (MVOp ν A) A)} {s s' : CMap K (MVReg ν A) A}

/-- **`Map<K, MVReg<ν>>`** (value record `MVReg.valOps`, system `mvregSys`: no delivery discipline, states up to the order of
the `Vec`): without key removes the registers under `k` hold the same puts -/
theorem nested_converge_mvreg (wf : LogWF (keyLog U)) (hdu : DotsUnique U) (k : K) (wfR : MVWF (valU k U))
    (h : ReachUp MVReg.valOps U s L) (h' : ReachUp MVReg.valOps U s' L')
    (e : ∀ d o, MapOp.up d k o ∈ L ↔ MapOp.up d k o ∈ L') :
    (s.get k).val.isSome = (s'.get k).val.isSome ∧
      (((s.get k).val).getD MVReg.init).vals.Perm (((s'.get k).val).getD MVReg.init).vals :=
  nested_converge_equiv (ops := MVReg.valOps) mvregSys rfl rfl wf hdu k wfR (fun _ _ _ _ _ => trivial) h h' e
end mvreg

section gset
variable {τ : Type} [LinOrd τ]

/-- `GSet` wrapped as a Map value (illustration of an order-free `RepSys`; the crate's `GSet` has no `ResetRemove`, which
the region never calls) -/
def gsetValOps : ValOps (GSet τ) τ A where
  default := GSet.init
  apply := GSet.apply
  merge := GSet.merge
  resetRemove := fun v _ => v
  validateOp := fun _ _ => true
  validateMerge := fun _ _ => true
  eq := fun a b => some (decide (a = b))

theorem nested_converge_gset {U L L' : List (MapOp K τ A)} {s s' : CMap K (GSet τ) A}
    (wf : LogWF (keyLog U)) (hdu : DotsUnique U) (k : K)
    (h : ReachUp gsetValOps U s L) (h' : ReachUp gsetValOps U s' L')
    (e : ∀ d o, MapOp.up d k o ∈ L ↔ MapOp.up d k o ∈ L') : (s.get k).val = (s'.get k).val :=
  nested_converge_orderfree (ops := gsetValOps) gsetSys rfl rfl (fun _ _ _ => trivial) wf hdu k trivial h h' e
end gset
end

/-! ## non-vacuity and sharpness -/
namespace Example

abbrev NOp := MapOp Nat (OrswotOp Nat Nat) Nat
abbrev nops : ValOps (Orswot Nat Nat) (OrswotOp Nat Nat) Nat := Orswot.valOps

def op1 : NOp := .up ⟨1, 1⟩ 10 (.add ⟨1, 1⟩ [7])
def op2 : NOp := .up ⟨2, 1⟩ 20 (.add ⟨2, 1⟩ [8])
def op3 : NOp := .up ⟨1, 2⟩ 10 (.add ⟨1, 2⟩ [9])
def Ux : List NOp := [op1, op2, op3]
/-- delivery order op1, op2, op1 (duplicate), op3 – the log is newest first -/
def Lx : List NOp := [op3, op1, op2, op1]
def sx : CMap Nat (Orswot Nat Nat) Nat := [op1, op2, op1, op3].foldl (CMap.apply nops) CMap.init

theorem wfx : LogWF (keyLog Ux) := .of_nodup (by decide) (by decide)

/-- the history is in the region: the hypotheses of `nested_eq_fold` are satisfiable -/
theorem reachx : ReachUp nops Ux sx Lx := by
  have du : DotsUnique Ux := dotsUnique_of_nodup (by decide)
  have m1 : op1 ∈ Ux := by simp [Ux]
  -- unfold the fold syntactically first: unifying `sx` with `CMap.apply nops _ _` would evaluate the states
  simp only [sx, List.foldl_cons, List.foldl_nil]
  exact ReachUp.init
    |>.step du m1 (by decide)
    |>.step du (by simp [Ux] : op2 ∈ Ux) (by decide)
    |>.step du m1 (by decide)
    |>.step du (by simp [Ux] : op3 ∈ Ux) (by decide)

/-- the duplicate delivery of `op1` is skipped, chronological order is kept -/
example : nestedOps 10 Lx = [.add ⟨1, 1⟩ [7], .add ⟨1, 2⟩ [9]] ∧ nestedOps 20 Lx = [.add ⟨2, 1⟩ [8]] ∧ nestedOps 30 Lx = [] := by
  decide +kernel

/-- `nested_eq_fold`'s right-hand side, evaluated, IS what `CMap.apply` computed – for a key updated twice (with a duplicate
in between), a key updated once, and an absent key -/
example : ∀ k ∈ [10, 20, 30], (sx.entries.get? k).map (·.val) =
    if nestedOps k Lx = [] then none else some ((nestedOps k Lx).foldl nops.apply nops.default) := by decide +kernel

/-- … and the theorem gives the same (instance of `nested_eq_fold`) -/
example (k : Nat) : (sx.entries.get? k).map (·.val) =
    if nestedOps k Lx = [] then none else some ((nestedOps k Lx).foldl nops.apply nops.default) :=
  nested_eq_fold wfx reachx k

example : ((sx.get 10).val.map (fun v => v.read.val)) = some [7, 9] := by decide +kernel

/-- sharpness of the counter-0 clause: with the plain first-occurrences list the statement is false for a counter-0 dot
(`Map::apply` ignores the op, the list does not) -/
theorem first_occurrences_needs_pos :
    let op0 : NOp := .up ⟨1, 0⟩ 10 (.add ⟨1, 0⟩ [7])
    let s0 := CMap.apply nops CMap.init op0
    (s0.entries.get? 10).map (·.val) ≠
      (if firstOps 10 [op0] = [] then none else some ((firstOps 10 [op0]).foldl nops.apply nops.default)) := by
  decide +kernel

/-- sharpness of `DotsUnique`: if one dot names two different updates, two replicas of the region that delivered the same set
of ops in different orders hold different nested values (each keeps the one that arrived first) -/
theorem dotsUnique_needed :
    ∃ (U L L' : List NOp) (s s' : CMap Nat (Orswot Nat Nat) Nat), LogWF (keyLog U) ∧ ReachUp nops U s L ∧ ReachUp nops U s' L' ∧
      (∀ x, x ∈ L ↔ x ∈ L') ∧ (s.get 10).val ≠ (s'.get 10).val := by
  let a : NOp := .up ⟨1, 1⟩ 10 (.add ⟨1, 1⟩ [7])
  let b : NOp := .up ⟨1, 1⟩ 10 (.add ⟨1, 1⟩ [8])
  have ok (L : List NOp) (k : Nat) : OrswotSpec.Ok (keyLog [a, b]) (keyLog L) (OrswotOp.add ⟨1, 1⟩ [k]) :=
    OrswotSpec.predsIn_one (by decide) 1
  have ma : a ∈ [a, b] := List.mem_cons_self
  have mb : b ∈ [a, b] := List.mem_cons_of_mem a List.mem_cons_self
  -- at key level both updates are the add `⟨1, 1⟩ [10]`
  have hk : ∀ o ∈ keyLog [a, b], o = OrswotOp.add ⟨1, 1⟩ [10] := by decide
  -- the key-level log is well-formed all the same: one key per dot (`hk`), and it holds no remove
  have wf : LogWF (keyLog [a, b]) :=
    ⟨fun d ms ms' h1 h2 => by cases hk _ h1; cases hk _ h2; rfl, fun c ms h => nomatch hk _ h⟩
  -- `a` then `b` at one replica, `b` then `a` at the other
  exact ⟨[a, b], [b, a], [a, b], _, _, wf,
    (ReachUp.init.apply ma (ok _ _)).apply mb (ok _ _), (ReachUp.init.apply mb (ok _ _)).apply ma (ok _ _),
    fun _ => (List.Perm.swap a b []).mem_iff, by decide +kernel⟩

/-- **outside the region the statement is false** (the crate's behaviour, `witness/map_orswot_causal_diverge.txt`): one key
remove, causal delivery, the same three ops at both replicas – the nested sets differ (one keeps a deferred nested remove) -/
theorem outside_region_diverges :
    let c01 : VClock Nat := VClock.ofDot ⟨0, 1⟩
    let o0 : NOp := .up ⟨0, 1⟩ 0 (.add ⟨0, 1⟩ [0])   -- actor 0 adds member 0 under key 0
    let o1 : NOp := .rm c01 [0]                      -- actor 0 removes key 0 having seen o0
    let o5 : NOp := .up ⟨1, 1⟩ 0 (.rm c01 [0])       -- actor 1, having seen o0, removes member 0 under key 0
    let sA := [o0, o1, o5].foldl (CMap.apply nops) CMap.init
    let sB := [o0, o5, o1].foldl (CMap.apply nops) CMap.init
    (sA.get 0).val ≠ (sB.get 0).val := by
  decide +kernel

end Example
end Crdt.C05
