import CrdtModel.Props.C04
import CrdtModel.Props.C05
/-!
# C07 — read contexts are exact causal witnesses and derived dots are fresh

Top-level Orswot first, Map below; for MVReg see `C06.read_add_clock`, `C06.write_clock_fresh`.

Every read entry point of `Orswot` (`read`, `read_ctx`, `contains`, `iter`) is covered: the model functions return
`ReadCtx` records whose clocks are, by definition, the replica clock / the member's entry clock; the theorems say what
those are in terms of the knowledge set `K`.
-/
namespace Crdt.C07
open RepSys OrswotSpec Orswot
variable {M A : Type} [LinOrd M] [LinOrd A]
section orswot
variable {U K : List (OrswotOp M A)} {s : Orswot M A}

/-- the add context of every read entry point is the replica clock … -/
theorem add_clock_all_entry_points (m : M) :
    s.read.addClock = s.clock ∧ s.readCtx.addClock = s.clock ∧ (s.contains m).addClock = s.clock ∧
    (∀ r ∈ s.iter, r.addClock = s.clock) :=
  ⟨rfl, rfl, rfl, List.forall_mem_map.mpr fun _ _ => rfl⟩

/-- … which covers every add the replica has applied -/
theorem add_clock_covers (wf : LogWF U) (h : orswotSys.Reach U s K) {d : Dot A} {ms : List M}
    (hin : OrswotOp.add d ms ∈ K) : d.counter ≤ s.read.addClock.get d.actor := by
  rewrite [C04.read_add_clock wf h]; exact le_clk hin

/-- whole-structure reads: remove context = add context -/
theorem whole_read_rm_clock : s.read.rmClock = s.read.addClock ∧ s.readCtx.rmClock = s.readCtx.addClock := ⟨rfl, rfl⟩

/-- element-level remove context of `contains` = exactly that element's surviving witnesses (`iter`: `iter_rm_clock`) -/
theorem element_rm_clock (wf : LogWF U) (h : orswotSys.Reach U s K) (m : M) (a : A) :
    (s.contains m).rmClock.get a = E K m a :=
  C04.contains_rm_clock wf h m a

theorem iter_rm_clock (wf : LogWF U) (h : orswotSys.Reach U s K) (r : ReadCtx M A) (hr : r ∈ s.iter) (a : A) :
    r.rmClock.get a = E K r.val a := by
  obtain ⟨p, hp, rfl⟩ := List.mem_map.mp hr
  exact (entryGet_of_some (FMap.mem_l_iff.mp hp) a).symm.trans ((C04.rep wf h).entries p.1 a)

/-- the element-level remove context is empty iff the element is absent -/
theorem rm_clock_empty_iff_absent (wf : LogWF U) (h : orswotSys.Reach U s K) (m : M) :
    (s.contains m).rmClock.isEmpty = true ↔ (s.contains m).val = false := by
  have r := C04.rep wf h
  simp only [Orswot.contains]
  cases hg : s.entries.get? m with
  | none => simp [VClock.isEmpty_empty]
  | some mc => simp [(r.ewf m mc hg).2]

/-- the element-level remove context never exceeds the add context -/
theorem rm_clock_le_add_clock (wf : LogWF U) (h : orswotSys.Reach U s K) (m : M) :
    (s.contains m).rmClock.le (s.contains m).addClock := by
  intro a
  rewrite [rmClock_contains]; exact (C04.rep wf h).entry_le_clock m a

/-- **freshness**: the dot derived for actor `i` is `i`'s next unused one – no op of the whole history by `i` carries it,
provided the replica knows all of `i`'s own adds (each actor edits at one replica and applies its ops as it goes) -/
theorem derived_dot_fresh (wf : LogWF U) (h : orswotSys.Reach U s K) (i : A)
    (own : ∀ d ms, OrswotOp.add d ms ∈ U → d.actor = i → OrswotOp.add d ms ∈ K) :
    (s.read.deriveAddCtx i).dot = ⟨i, clk K i + 1⟩ ∧
    ∀ d ms, OrswotOp.add d ms ∈ U → d.actor = i → d.counter < (s.read.deriveAddCtx i).dot.counter := by
  -- by definition the derived dot is `⟨i, s.clock.get i + 1⟩`
  have hdot : (s.read.deriveAddCtx i).dot = ⟨i, clk K i + 1⟩ :=
    congrArg (fun n => (⟨i, n + 1⟩ : Dot A)) (C04.read_add_clock wf h i)
  refine ⟨hdot, fun d ms hu ha => ?_⟩
  rewrite [hdot]
  exact Nat.lt_succ_of_le (ha ▸ le_clk (own d ms hu ha))

/-- the add context's clock is the replica clock with the new dot applied (`add`/`add_all` read `ctx.dot` only,
src/orswot.rs:242-255) -/
theorem derived_ctx_clock (i : A) (a : A) :
    (s.read.deriveAddCtx i).clock.get a = if a = i then s.clock.get i + 1 else s.clock.get a :=
  VClock.get_apply_inc s.clock i a

/-- **a remove built from a read context cannot affect anything the reader had not seen**: every add of the history
that the context covers is already known to the reader -/
theorem rm_ctx_covers_only_seen (wf : LogWF U) (h : orswotSys.Reach U s K) (c : VClock A)
    (hc : c.le s.clock) {d : Dot A} {ms : List M} (hu : OrswotOp.add d ms ∈ U) (hpos : 0 < d.counter)
    (hcov : d.counter ≤ c.get d.actor) : OrswotOp.add d ms ∈ K := by
  have r := reach_rep (R := orswotSys) wf h
  exact add_mem_of_le_clk wf r.1 hu hpos (Nat.le_trans hcov (r.2.clock d.actor ▸ hc d.actor))
end orswot

/-! ## Map (top level; any value type): `get`, `keys`, `values`, `iter`, `len`, `is_empty`, `read_ctx` -/
section map
open CMap
variable {K' V VOp : Type} [LinOrd K'] {ops : ValOps V VOp A} {UM L : List (MapOp K' VOp A)} {m : CMap K' V A}

theorem map_clock (wf : LogWF (keyLog UM)) (h : CMap.Reach ops UM m L) (a : A) : m.clock.get a = clk (keyLog L) a :=
  (keys_rep wf h).2.clock a

/-- the add context of every Map read entry point is the map clock, which covers every update the replica applied -/
theorem map_add_clock_covers (wf : LogWF (keyLog UM)) (h : CMap.Reach ops UM m L) {d : Dot A} {k : K'} {o : VOp}
    (hin : MapOp.up d k o ∈ L) : d.counter ≤ m.readCtx.addClock.get d.actor := by
  show d.counter ≤ m.clock.get d.actor
  rewrite [map_clock wf h]
  exact le_clk (up_mem_keyLog hin)

/-- element-level remove context (`get`, and `keys` via `C05.keys_entry`) = exactly the key's surviving update witnesses -/
theorem map_get_rm_clock (wf : LogWF (keyLog UM)) (h : CMap.Reach ops UM m L) (k : K') (a : A) :
    (m.get k).rmClock.get a = E (keyLog L) k a := C05.get_rm_clock wf h k a

/-- a key's remove context never exceeds the add context -/
theorem map_rm_clock_le_add_clock (wf : LogWF (keyLog UM)) (h : CMap.Reach ops UM m L) (k : K') :
    (m.get k).rmClock.le (m.get k).addClock := by
  intro a
  rewrite [← entryGet_keysView]; exact (keys_rep wf h).2.entry_le_clock k a

/-- whole-structure reads (`len`, `is_empty`, `read_ctx`): remove context = add context -/
theorem map_whole_read_rm_clock : m.len.rmClock = m.len.addClock ∧ m.isEmpty.rmClock = m.isEmpty.addClock ∧
    m.readCtx.rmClock = m.readCtx.addClock := ⟨rfl, rfl, rfl⟩

/-- **freshness** of the dot derived for actor `i` at a replica that knows all of `i`'s own updates -/
theorem map_derived_dot_fresh (wf : LogWF (keyLog UM)) (h : CMap.Reach ops UM m L) (i : A)
    (own : ∀ d k o, MapOp.up d k o ∈ UM → d.actor = i → MapOp.up d k o ∈ L) :
    (m.readCtx.deriveAddCtx i).dot = ⟨i, clk (keyLog L) i + 1⟩ ∧
    ∀ d k o, MapOp.up d k o ∈ UM → d.actor = i → d.counter < (m.readCtx.deriveAddCtx i).dot.counter := by
  have hdot : (m.readCtx.deriveAddCtx i).dot = ⟨i, clk (keyLog L) i + 1⟩ :=
    congrArg (fun n => (⟨i, n + 1⟩ : Dot A)) (map_clock wf h i)
  refine ⟨hdot, fun d k o hu ha => ?_⟩
  rewrite [hdot]
  exact Nat.lt_succ_of_le (ha ▸ le_clk (up_mem_keyLog (own d k o hu ha)))

end map

end Crdt.C07
