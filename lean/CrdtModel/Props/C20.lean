import CrdtModel.Props.C04
import CrdtModel.Props.C05
import CrdtModel.Spec.Lattice
/-!
# C20 — equal knowledge gives structurally equal state; no tombstones remain

Model states are canonical (sorted maps with an extensionality lemma), so Lean `=` on model states coincides with Rust's
derived `==` (which is extensional on `HashMap`/`BTreeMap`/sets).  `converge` concludes `=`.
-/
namespace Crdt.C20
open RepSys OrswotSpec
variable {M A : Type} [LinOrd M] [LinOrd A]
section orswot
variable {U K K' : List (OrswotOp M A)} {s s' : Orswot M A}

/-- replicas that learned the same updates compare equal with `==` -/
theorem orswot_eq (wf : LogWF U) (h : orswotSys.Reach U s K) (h' : orswotSys.Reach U s' K')
    (e : ∀ o, o ∈ K ↔ o ∈ K') : decide (s = s') = true :=
  decide_eq_true (converge (R := orswotSys) wf h h' e)

/-- once every known remove's context has been caught up with, no pending remove is kept -/
theorem no_pending_residue (wf : LogWF U) (h : orswotSys.Reach U s K)
    (caught_up : ∀ c ms, OrswotOp.rm c ms ∈ K → ∀ a, c.get a ≤ clk K a) : s.deferred = ∅ :=
  (C04.rep wf h).no_pending_residue caught_up

/-- no empty entry, no leftover witness: every stored entry has a surviving witness, every stored counter is one -/
theorem no_empty_entry (wf : LogWF U) (h : orswotSys.Reach U s K) (m : M) (mc : VClock A)
    (hg : s.entries.get? m = some mc) : mc.isEmpty = false ∧ mc.NoZero ∧ ∀ a, mc.get a = E K m a :=
  (C04.rep wf h).no_empty_entry hg

/-- a fully removed member leaves nothing behind in `entries` -/
theorem removed_leaves_no_entry (wf : LogWF U) (h : orswotSys.Reach U s K) (m : M)
    (gone : ∀ a, Mx K m a ≤ θ K m a) : s.entries.get? m = none := by
  rewrite [← Option.not_isSome_iff_eq_none, (C04.rep wf h).present_iff_witness m]
  rintro ⟨a, ha⟩
  exact Nat.not_lt.mpr (gone a) (Ev_pos.mp ha)

/-- the state is a function of `K` alone: two derivations with the same knowledge end in the same state (which state:
`C04.state_eq_spec`) -/
theorem state_is_function_of_knowledge (wf : LogWF U) (h : orswotSys.Reach U s K) (h' : orswotSys.Reach U s' K) :
    s = s' := converge (R := orswotSys) wf h h' (fun _ => Iff.rfl)
end orswot

section lattice
variable {α : Type} [LinOrd α]
theorem gcounter_eq {U K K' : List (Dot α)} {s s' : GCounter α} (h : gcounterSys.Reach U s K)
    (h' : gcounterSys.Reach U s' K') (e : ∀ o, o ∈ K ↔ o ∈ K') : decide (s = s') = true :=
  decide_eq_true (converge (R := gcounterSys) trivial h h' e)
theorem pncounter_eq {U K K' : List (PNOp α)} {s s' : PNCounter α} (h : pncounterSys.Reach U s K)
    (h' : pncounterSys.Reach U s' K') (e : ∀ o, o ∈ K ↔ o ∈ K') : decide (s = s') = true :=
  decide_eq_true (converge (R := pncounterSys) trivial h h' e)
theorem gset_eq {U K K' : List α} {s s' : GSet α} (h : gsetSys.Reach U s K)
    (h' : gsetSys.Reach U s' K') (e : ∀ o, o ∈ K ↔ o ∈ K') : decide (s = s') = true :=
  decide_eq_true (converge (R := gsetSys) trivial h h' e)
theorem vclock_eq {U K K' : List (Dot α)} {s s' : VClock α} (h : vclockSys.Reach U s K)
    (h' : vclockSys.Reach U s' K') (e : ∀ o, o ∈ K ↔ o ∈ K') : decide (s = s') = true :=
  decide_eq_true (converge (R := vclockSys) trivial h h' e)
end lattice

/-! ## Map, key level (any value type) -/
section map
open CMap
variable {K' V VOp : Type} [LinOrd K'] {ops : ValOps V VOp A} {UM L : List (MapOp K' VOp A)} {m : CMap K' V A}

/-- once every known key remove's context has been caught up with, no pending key remove is kept -/
theorem map_no_pending_residue (wf : LogWF (keyLog UM)) (h : CMap.Reach ops UM m L)
    (caught_up : ∀ c ks, MapOp.rm c ks ∈ L → ∀ a, c.get a ≤ clk (keyLog L) a) : m.deferred = ∅ :=
  (keys_rep wf h).2.no_pending_residue fun c ks hin => caught_up c ks (mem_keyLog_rm.mp hin)

/-- no empty entry: every stored entry clock is non-empty, zero-free and equals the key's surviving witnesses -/
theorem map_no_empty_entry (wf : LogWF (keyLog UM)) (h : CMap.Reach ops UM m L) (k : K') (en : MapEntry V A)
    (hg : m.entries.get? k = some en) : en.clock.isEmpty = false ∧ en.clock.NoZero ∧ ∀ a, en.clock.get a = E (keyLog L) k a :=
  (keys_rep wf h).2.no_empty_entry ((get?_keysView m k).trans (congrArg _ hg))

end map

end Crdt.C20
