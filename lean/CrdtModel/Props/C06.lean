import CrdtModel.Proofs.MVRegSpec
/-!
# C06 — `MVReg::read` returns exactly the causally-maximal writes

Hypotheses everywhere: `Reach U s K` (Spec/RepSysEquiv.lean) – `s` is the state of any replica or snapshot of any history
over the universe `U` of puts, with **no delivery-order assumption at all** (`Ok := True`: ops may arrive before the ops
they supersede); `K` is the list of puts the replica has learned.  `MVWF U`: no clock stores a zero counter and puts with
equal clocks have equal values (what writing through the API guarantees when each actor writes at one replica: `genLog_wf`).
States are compared up to the arrival order of the `Vec` (`List.Perm`), which is also what the hand-written `==`
decides on duplicate-free states (`eq_true_iff_perm`).
The generic corollaries of `RepSysE` are restated for `mvregSys` under their short names (`converge`, `merge_comm`, …).
-/
namespace Crdt.C06
open RepSysE

section general
variable {ν α : Type} [LinOrd α] {U : List (MVOp ν α)}

/-- derivable replica states of the MVReg system, with their knowledge -/
abbrev Reach (U : List (MVOp ν α)) (s : MVReg ν α) (K : List (MVOp ν α)) : Prop := (mvregSys (ν := ν) (α := α)).Reach U s K

/-- **representation**: every derivable state holds exactly the causally-maximal known puts (non-empty clock,
no known put with a strictly greater clock), each exactly once -/
theorem vals_eq_maximal (wf : MVWF U) {s : MVReg ν α} {K : List (MVOp ν α)} (h : Reach U s K) :
    s.vals.Nodup ∧ ∀ c v, (c, v) ∈ s.vals ↔ Maximal K c v :=
  (reach_rep (R := mvregSys) wf h).2

theorem knowledge_subset (wf : MVWF U) {s : MVReg ν α} {K : List (MVOp ν α)} (h : Reach U s K) : ∀ o ∈ K, o ∈ U :=
  (reach_rep (R := mvregSys) wf h).1

/-- the universe only has to contain the ops actually delivered … -/
theorem reach_mono {U' : List (MVOp ν α)} {s : MVReg ν α} {K : List (MVOp ν α)} (h : Reach U s K)
    (sub : ∀ o ∈ U, o ∈ U') : Reach U' s K := by
  induction h with
  | init => exact Reach.init
  | apply _ hu _ ih => exact Reach.apply ih (sub _ hu) trivial
  | merge _ _ ih1 ih2 => exact Reach.merge ih1 ih2

/-- … indeed only the replica's own knowledge: `MVWF` of the puts *it has learned* is all that matters.  Particular to
MVReg (`Ok := True`, a derivation never consults `U`): the `Ok` of Orswot and List reads `U`. -/
theorem reach_self {s : MVReg ν α} {K : List (MVOp ν α)} (h : Reach U s K) : Reach K s K := by
  induction h with
  | init => exact Reach.init
  | @apply s K op _ _ _ ih =>
    exact Reach.apply (reach_mono ih fun _ => List.mem_cons_of_mem _) List.mem_cons_self trivial
  | merge _ _ ih1 ih2 =>
    exact Reach.merge (reach_mono ih1 fun _ => List.mem_append_left _) (reach_mono ih2 fun _ => List.mem_append_right _)

theorem vals_eq_maximal_of_wf_knowledge {s : MVReg ν α} {K : List (MVOp ν α)} (h : Reach U s K) (wf : MVWF K) :
    s.vals.Nodup ∧ ∀ c v, (c, v) ∈ s.vals ↔ Maximal K c v :=
  vals_eq_maximal wf (reach_self h)

theorem read_val (s : MVReg ν α) : s.read.val = s.vals.map (·.2) := rfl

section spec
variable [DecidableEq ν]

theorem vals_perm_maxPuts (wf : MVWF U) {s : MVReg ν α} {K : List (MVOp ν α)} (h : Reach U s K) :
    s.vals.Perm (MVSpec.maxPuts K) :=
  MVRep.functional (s' := ⟨MVSpec.maxPuts K⟩) (vals_eq_maximal wf h) ⟨MVSpec.nodup_maxPuts K, MVSpec.mem_maxPuts K⟩

/-- **C06**: `read()` returns exactly (as a multiset) the values of the causally-maximal puts learned –
at every replica, at every step, for every delivery order and merge pattern -/
theorem read_eq_maximal (wf : MVWF U) {s : MVReg ν α} {K : List (MVOp ν α)} (h : Reach U s K) :
    s.read.val.Perm ((MVSpec.maxPuts K).map (·.2)) :=
  (vals_perm_maxPuts wf h).map _

end spec

/-! ## the read clock -/

/-- `read().add_clock` (= `rm_clock`) is computed as the join of the *stored* (maximal) clocks; because every known
put lies below a maximal one this equals the join of ALL known clocks: per actor the largest counter in any known put -/
theorem read_add_clock (wf : MVWF U) {s : MVReg ν α} {K : List (MVOp ν α)} (h : Reach U s K) (a : α) :
    s.read.addClock.get a = listMax (fun o => o.clock.get a) K := by
  have rep := vals_eq_maximal wf h
  apply Nat.le_antisymm
  · show s.clock.get a ≤ _
    rewrite [MVReg.get_clock]
    exact (listMax_le_iff _ _ _).mpr fun p hp =>
      le_listMax (fun o : MVOp ν α => o.clock.get a) (x := ⟨p.1, p.2⟩) (MVRep.known rep hp)
  · exact (listMax_le_iff _ _ _).mpr fun o ho => MVRep.le_clock rep ho a

theorem read_clocks_equal (s : MVReg ν α) : s.read.rmClock = s.read.addClock ∧ s.readCtx.addClock = s.read.addClock ∧
    s.readCtx.rmClock = s.read.addClock := ⟨rfl, rfl, rfl⟩

/-- as a value: the read clock is the executable specification clock -/
theorem read_add_clock_eq_spec (wf : MVWF U) {s : MVReg ν α} {K : List (MVOp ν α)} (h : Reach U s K) :
    s.read.addClock = MVSpec.readClock K :=
  VClock.ext_get (MVReg.noZero_clock s) (MVSpec.noZero_readClock K)
    (fun a => by rw [read_add_clock wf h, MVSpec.get_readClock])

/-! ## what is shown, what is not -/

theorem superseded_not_shown (wf : MVWF U) {s : MVReg ν α} {K : List (MVOp ν α)} (h : Reach U s K)
    {c : VClock α} {o : MVOp ν α} (hk : o ∈ K) (l : c.slt o.clock) : ∀ v, (c, v) ∉ s.vals :=
  fun v hin => ((vals_eq_maximal wf h).2 c v).mp hin |>.2.2 ⟨o, hk, l⟩

/-- a put dominated by a known put is not shown (no entry with its clock at all), now or after any further deliveries /
merges in any order (any derivable state whose knowledge includes `K`) – it never reappears -/
theorem superseded_never_reappears (wf : MVWF U) {K : List (MVOp ν α)}
    {c c' : VClock α} {v' : ν} (hk : (⟨c', v'⟩ : MVOp ν α) ∈ K) (l : c.slt c')
    {t : MVReg ν α} {K' : List (MVOp ν α)} (ht : Reach U t K') (sub : ∀ o ∈ K, o ∈ K') : ∀ v, (c, v) ∉ t.vals :=
  superseded_not_shown wf ht (sub _ hk) l

/-- a write built from the context of a read (`write(v, read_ctx().derive_add_ctx(a))` at ANY state `s`), once it is
known to a replica – delivered in any order, or merged in – removes everything that read returned -/
theorem write_supersedes_read (wf : MVWF U) (s : MVReg ν α) (a : α) (v : ν)
    {t : MVReg ν α} {K' : List (MVOp ν α)} (ht : Reach U t K') (hk : s.writeBy a v ∈ K') :
    ∀ p ∈ s.vals, ∀ v', (p.1, v') ∉ t.vals :=
  fun _ hp => superseded_not_shown wf ht hk (MVReg.slt_writeBy s hp a v)

/-- at the writer: applying one's own write leaves exactly that one value -/
theorem write_apply_local (s : MVReg ν α) (a : α) (v : ν) :
    (s.apply (s.writeBy a v)).vals = [((s.writeBy a v).clock, v)] ∧ (s.apply (s.writeBy a v)).read.val = [v] := by
  have hk : s.vals.filter (fun p => MVReg.retained (s.writeBy a v).clock p.1) = [] :=
    List.filter_eq_nil_iff.mpr fun p hp hr => ((MVReg.retained_iff _ _).mp hr).2 (MVReg.slt_writeBy s hp a v)
  have : (s.apply (s.writeBy a v)).vals = [((s.writeBy a v).clock, v)] := by
    rewrite [MVReg.apply_vals s (MVReg.writeBy_nonempty s a v), hk]; rfl
  exact ⟨this, by rewrite [read_val, this]; rfl⟩

/-- two known puts with concurrent clocks that no known put dominates are BOTH shown, as two entries – even when
their values are equal (`read().val` then contains the value twice) -/
theorem concurrent_writes_kept (wf : MVWF U) {s : MVReg ν α} {K : List (MVOp ν α)} (h : Reach U s K)
    {c c' : VClock α} {v v' : ν} (hc : (⟨c, v⟩ : MVOp ν α) ∈ K) (hc' : (⟨c', v'⟩ : MVOp ν α) ∈ K)
    (conc : c.concurrent c' = true) (nd : ¬ Dominated K c) (nd' : ¬ Dominated K c') :
    (c, v) ∈ s.vals ∧ (c', v') ∈ s.vals ∧
      ∃ i j : Nat, i ≠ j ∧ s.read.val[i]? = some v ∧ s.read.val[j]? = some v' := by
  have rep := vals_eq_maximal wf h
  obtain ⟨n2, n1⟩ := (VClock.concurrent_iff c c').mp conc
  have m1 : (c, v) ∈ s.vals := (rep.2 c v).mpr ⟨hc, VClock.nonempty_of_not_le n2, nd⟩
  have m2 : (c', v') ∈ s.vals := (rep.2 c' v').mpr ⟨hc', VClock.nonempty_of_not_le n1, nd'⟩
  refine ⟨m1, m2, ?_⟩
  obtain ⟨i, hi⟩ := List.mem_iff_getElem?.mp m1
  obtain ⟨j, hj⟩ := List.mem_iff_getElem?.mp m2
  refine ⟨i, j, ?_, ?_, ?_⟩
  · intro e; subst e; rewrite [hi] at hj
    exact n2 ((Prod.mk.inj (Option.some.inj hj)).1 ▸ VClock.le_refl c)
  · rewrite [read_val, List.getElem?_map, hi]; rfl
  · rewrite [read_val, List.getElem?_map, hj]; rfl

/-- the textbook case: a replica that knows exactly two concurrent puts reads both values, in some order -/
theorem two_concurrent_writes (wf : MVWF U) {s : MVReg ν α} {K : List (MVOp ν α)} (h : Reach U s K)
    {c c' : VClock α} {v v' : ν} (hK : ∀ o, o ∈ K ↔ (o = ⟨c, v⟩ ∨ o = ⟨c', v'⟩))
    (conc : c.concurrent c' = true) : s.read.val.Perm [v, v'] := by
  obtain ⟨n2, n1⟩ := (VClock.concurrent_iff c c').mp conc
  have hne : c ≠ c' := fun e => n2 (e ▸ VClock.le_refl c)
  -- the two entries are a representation of `K`
  refine (MVRep.functional (s' := ⟨[(c, v), (c', v')]⟩) (vals_eq_maximal wf h) ⟨by simp [hne], fun x y => ?_⟩).map (·.2)
  rewrite [Maximal.congr (K' := [⟨c, v⟩] ++ [⟨c', v'⟩]) (by simpa only [List.mem_append, List.mem_singleton] using hK),
    maximal_append, maximal_singleton, maximal_singleton, dominated_singleton, dominated_singleton]
  simp only [List.mem_cons, List.not_mem_nil, or_false, Prod.mk.injEq]
  constructor
  · -- neither clock is strictly below the other one
    rintro (⟨rfl, rfl⟩ | ⟨rfl, rfl⟩)
    · exact Or.inl ⟨⟨⟨rfl, rfl⟩, VClock.nonempty_of_not_le n2⟩, fun l => n2 l.1⟩
    · exact Or.inr ⟨⟨⟨rfl, rfl⟩, VClock.nonempty_of_not_le n1⟩, fun l => n1 l.1⟩
  · exact Or.imp (·.1.1) (·.1.1)

/-! ## convergence, merge laws, duplicates -/

/-- same knowledge ⇒ same multiset of (clock, value) entries, same multiset of read values, same read clock –
for any two replicas / snapshots, however each one got there -/
theorem converge (wf : MVWF U) {s s' : MVReg ν α} {K K' : List (MVOp ν α)} (h : Reach U s K) (h' : Reach U s' K')
    (e : ∀ o, o ∈ K ↔ o ∈ K') :
    s.vals.Perm s'.vals ∧ s.read.val.Perm s'.read.val ∧ s.read.addClock = s'.read.addClock := by
  have p : s.vals.Perm s'.vals := RepSysE.converge (R := mvregSys) wf h h' e
  refine ⟨p, p.map _, ?_⟩
  exact VClock.ext_get (MVReg.noZero_clock s) (MVReg.noZero_clock s')
    (fun a => by rw [read_add_clock wf h, read_add_clock wf h', listMax_congr _ e])

section eq
variable [DecidableEq ν]

/-- the hand-written `==` (src/mvreg.rs:63-85) never panics on derivable states … -/
theorem eq_never_panics (wf : MVWF U) {s s' : MVReg ν α} {K K' : List (MVOp ν α)} (h : Reach U s K)
    (h' : Reach U s' K') : ∃ b, s.eq s' = some b :=
  ⟨_, MVReg.eq_of_nodup (vals_eq_maximal wf h).1 (vals_eq_maximal wf h').1⟩

/-- … where it decides equality up to the order of the `Vec` … -/
theorem eq_true_iff_perm (wf : MVWF U) {s s' : MVReg ν α} {K K' : List (MVOp ν α)} (h : Reach U s K)
    (h' : Reach U s' K') : s.eq s' = some true ↔ s.vals.Perm s'.vals :=
  MVReg.eq_true_iff_perm (vals_eq_maximal wf h).1 (vals_eq_maximal wf h').1

/-- … so replicas with the same knowledge compare `==` -/
theorem converge_eq (wf : MVWF U) {s s' : MVReg ν α} {K K' : List (MVOp ν α)} (h : Reach U s K) (h' : Reach U s' K')
    (e : ∀ o, o ∈ K ↔ o ∈ K') : s.eq s' = some true :=
  (eq_true_iff_perm wf h h').mpr (converge wf h h' e).1

/-- and `==` is exactly "same maximal puts": two derivable states are `==` iff they show the same entries -/
theorem eq_true_iff_same_maximal (wf : MVWF U) {s s' : MVReg ν α} {K K' : List (MVOp ν α)} (h : Reach U s K)
    (h' : Reach U s' K') : s.eq s' = some true ↔ ∀ c v, Maximal K c v ↔ Maximal K' c v := by
  have r := vals_eq_maximal wf h
  have r' := vals_eq_maximal wf h'
  rewrite [eq_true_iff_perm wf h h', List.perm_ext_iff_of_nodup r.1 r'.1, Prod.forall]
  exact forall₂_congr fun c v => by rw [r.2, r'.2]

theorem merge_comm_eq (wf : MVWF U) {s s' : MVReg ν α} {K K' : List (MVOp ν α)} (h : Reach U s K) (h' : Reach U s' K') :
    (s.merge s').eq (s'.merge s) = some true :=
  converge_eq wf (Reach.merge h h') (Reach.merge h' h) fun _ => by simp only [List.mem_append, or_comm]

end eq

theorem merge_comm (wf : MVWF U) {s s' : MVReg ν α} {K K' : List (MVOp ν α)} (h : Reach U s K) (h' : Reach U s' K') :
    (s.merge s').vals.Perm (s'.merge s).vals := RepSysE.merge_comm (R := mvregSys) wf h h'

theorem merge_assoc (wf : MVWF U) {a b c : MVReg ν α} {Ka Kb Kc : List (MVOp ν α)} (ha : Reach U a Ka)
    (hb : Reach U b Kb) (hc : Reach U c Kc) : ((a.merge b).merge c).vals.Perm (a.merge (b.merge c)).vals :=
  RepSysE.merge_assoc (R := mvregSys) wf ha hb hc

theorem merge_idem (wf : MVWF U) {s : MVReg ν α} {K : List (MVOp ν α)} (h : Reach U s K) :
    (s.merge s).vals.Perm s.vals := RepSysE.merge_idem (R := mvregSys) wf h

/-- merging two replicas gives what a replica that received the union of their ops (in any order) holds -/
theorem merge_is_union (wf : MVWF U) {s s' t : MVReg ν α} {K K' L : List (MVOp ν α)} (h : Reach U s K)
    (h' : Reach U s' K') (ht : Reach U t L) (e : ∀ o, o ∈ L ↔ (o ∈ K ∨ o ∈ K')) : (s.merge s').vals.Perm t.vals :=
  RepSysE.merge_is_union (R := mvregSys) wf h h' ht e

/-- a duplicate delivery is absorbed -/
theorem dup_noop (wf : MVWF U) {s : MVReg ν α} {K : List (MVOp ν α)} (h : Reach U s K) {op : MVOp ν α}
    (hk : op ∈ K) : (s.apply op).vals.Perm s.vals :=
  RepSysE.dup_noop (R := mvregSys) wf h (knowledge_subset wf h op hk) hk

/-- merging an old snapshot / a lagging peer / one's own past is absorbed -/
theorem stale_noop (wf : MVWF U) {s s' : MVReg ν α} {K K' : List (MVOp ν α)} (h : Reach U s K) (h' : Reach U s' K')
    (sub : ∀ o, o ∈ K' → o ∈ K) : (s.merge s').vals.Perm s.vals := RepSysE.stale_noop (R := mvregSys) wf h h' sub

/-- any two puts commute, whatever their causal relation -/
theorem apply_comm (wf : MVWF U) {s : MVReg ν α} {K : List (MVOp ν α)} (h : Reach U s K) {o₁ o₂ : MVOp ν α}
    (h₁ : o₁ ∈ U) (h₂ : o₂ ∈ U) : ((s.apply o₁).apply o₂).vals.Perm ((s.apply o₂).apply o₁).vals := by
  have p := RepSysE.apply_comm (R := mvregSys) wf h h₁ h₂ trivial trivial trivial trivial
  -- `mvregSys.apply` is `MVReg.apply`; left to the unifier, the nested `MVReg.apply` is unfolded first, which is slow
  dsimp only [mvregSys] at p
  exact p

/-! ## generation through the API -/

/-- the new clock is strictly above every clock the writer has seen (so it is neither `≤` nor `=` any of them) -/
theorem write_clock_above_seen (wf : MVWF U) {s : MVReg ν α} {K : List (MVOp ν α)} (h : Reach U s K) (a : α) (v : ν) :
    ∀ o ∈ K, o.clock.slt (s.writeBy a v).clock :=
  fun _ ho => VClock.slt_of_le_of_slt (MVRep.le_clock (vals_eq_maximal wf h) ho) (MVReg.clock_slt_writeBy s a v)

/-- when the writer has seen the largest `a`-counter that exists anywhere (it applied all of actor `a`'s earlier puts:
each actor writes at one replica), the new clock differs from EVERY clock of the universe -/
theorem write_clock_fresh (wf : MVWF U) {s : MVReg ν α} {K : List (MVOp ν α)} (h : Reach U s K) (a : α) (v : ν)
    (own : ∀ o ∈ U, o.clock.get a ≤ listMax (fun o => o.clock.get a) K) : ∀ o ∈ U, o.clock ≠ (s.writeBy a v).clock := by
  intro o ho e
  have h1 := own o ho
  -- the writer's own counter in the new clock is one more than the largest it has seen
  rewrite [e, MVReg.get_writeBy, if_pos rfl, show s.clock.get a = _ from read_add_clock wf h a] at h1
  exact Nat.not_succ_le_self _ h1

/-- the largest `x`-counter among the puts written by actor `x` -/
def ownMax (L : List (α × MVOp ν α)) (x : α) : Nat := listMax (fun e => if e.1 = x then e.2.clock.get x else 0) L

/-- histories of API writes: each new put is `s.write(v, s.read_ctx().derive_add_ctx(a))` for a state `s` derivable from
the puts written so far (delivered in any order, merged in any pattern) that knows all earlier puts of actor `a`
(`a` writes at one replica and applies its own write before the next one). Newest first; tagged with the author. -/
inductive GenLog : List (α × MVOp ν α) → Prop
  | nil : GenLog []
  | write {L : List (α × MVOp ν α)} {s : MVReg ν α} {K : List (MVOp ν α)} (a : α) (v : ν) :
      GenLog L → Reach (L.map (·.2)) s K → (∀ e ∈ L, e.1 = a → e.2 ∈ K) → GenLog ((a, s.writeBy a v) :: L)

theorem write_fresh_of_bound {L : List (α × MVOp ν α)} {s : MVReg ν α} {K : List (MVOp ν α)} {a : α}
    (wf : MVWF (L.map (·.2))) (hb : ∀ e ∈ L, ∀ x, e.2.clock.get x ≤ ownMax L x) (hr : Reach (L.map (·.2)) s K)
    (hown : ∀ e ∈ L, e.1 = a → e.2 ∈ K) (v : ν) : ∀ e ∈ L, e.2.clock ≠ (s.writeBy a v).clock := by
  intro e he
  refine write_clock_fresh wf hr a v (fun o ho => ?_) e.2 (List.mem_map_of_mem he)
  -- no clock holds an `a`-counter above the largest in `a`'s own puts (`hb`), all of which the writer knows (`hown`)
  obtain ⟨e', he', rfl⟩ := List.mem_map.mp ho
  refine Nat.le_trans (hb e' he' a) ((listMax_le_iff _ _ _).mpr fun e'' he'' => ?_)
  split
  · next ea => exact le_listMax (fun o : MVOp ν α => o.clock.get a) (hown e'' he'' ea)
  · exact Nat.zero_le _

/-- The three invariants of a log of API writes, in one induction because the first needs the third: the next write
is fresh (`write_clock_fresh`, premise `own`) because no clock of the log holds a counter above its actor's own largest. -/
theorem genLog_inv {L : List (α × MVOp ν α)} (g : GenLog L) :
    MVWF (L.map (·.2)) ∧ (∀ e ∈ L, e.2.clock.isEmpty = false) ∧ ∀ e ∈ L, ∀ x, e.2.clock.get x ≤ ownMax L x := by
  induction g with
  | nil => exact ⟨⟨List.forall_mem_nil _, List.forall_mem_nil _⟩, List.forall_mem_nil _, List.forall_mem_nil _⟩
  | @write L s K a v _ hr hown ih =>
    obtain ⟨wf, hne, hb⟩ := ih
    refine ⟨wf.cons (MVReg.noZero_writeBy s a v) fun o ho => ?_,
      List.forall_mem_cons.mpr ⟨MVReg.writeBy_nonempty s a v, hne⟩,
      List.forall_mem_cons.mpr ⟨fun x => ?_, fun e he x => Nat.le_trans (hb e he x) (Nat.le_max_right _ _)⟩⟩
    · obtain ⟨e, he, rfl⟩ := List.mem_map.mp ho
      exact write_fresh_of_bound wf hb hr hown v e he
    · -- the writer's own counter counts towards `ownMax`; the others are what it saw, which `hb` bounds
      show (s.writeBy a v).clock.get x ≤ max (if a = x then (s.writeBy a v).clock.get x else 0) (ownMax L x)
      split
      · exact Nat.le_max_left _ _
      · next ne =>
        rewrite [MVReg.get_writeBy, if_neg (Ne.symm ne), show s.clock.get x = _ from read_add_clock wf hr x]
        refine Nat.le_trans ((listMax_le_iff _ _ _).mpr fun o ho => ?_) (Nat.le_max_right _ _)
        obtain ⟨e, he, rfl⟩ := List.mem_map.mp (knowledge_subset wf hr o ho)
        exact hb e he x

/-- **generation lemma**: a log of API writes is well-formed – no stored zero, and puts with equal clocks have equal
values (no two writes share a clock at all: `genLog_clocks_nodup`, Props/Addenda.lean) – so every theorem of this file
applies to every replica of the history -/
theorem genLog_wf {L : List (α × MVOp ν α)} (g : GenLog L) : MVWF (L.map (·.2)) := (genLog_inv g).1

theorem genLog_nonempty {L : List (α × MVOp ν α)} (g : GenLog L) : ∀ e ∈ L, e.2.clock.isEmpty = false := (genLog_inv g).2.1

/-- the representation theorem for every replica of a history of API writes (`MVWF` from `genLog_wf`) -/
theorem genLog_read {L : List (α × MVOp ν α)} (g : GenLog L) {s : MVReg ν α} {K : List (MVOp ν α)}
    (h : Reach (L.map (·.2)) s K) : s.vals.Nodup ∧ ∀ c v, (c, v) ∈ s.vals ↔ Maximal K c v :=
  vals_eq_maximal (genLog_wf g) h

end general

/-! ## non-vacuity -/

/-- replicas 0 and 1 write concurrently (same value 7), replica 2 then writes 9 having seen only the first -/
def exA : MVOp Nat Nat := (MVReg.init : MVReg Nat Nat).writeBy 0 7
def exB : MVOp Nat Nat := (MVReg.init : MVReg Nat Nat).writeBy 1 7
def exC : MVOp Nat Nat := ((MVReg.init : MVReg Nat Nat).apply exA).writeBy 2 9
def exU : List (MVOp Nat Nat) := [exC, exB, exA]

example : MVSpec.wfB exU = true := by decide +kernel
example : MVWF exU := (MVSpec.wfB_iff exU).mp (by decide +kernel)
/-- delivered out of causal order (C before A) and by merge: still the maximal puts B and C -/
def exS : MVReg Nat Nat := (((MVReg.init.apply exC).apply exB).apply exA).merge (MVReg.init.apply exA)
example : Reach exU exS ([exA, exB, exC] ++ [exA]) := by
  have hA : exA ∈ exU := by simp [exU]
  have hB : exB ∈ exU := by simp [exU]
  have hC : exC ∈ exU := by simp [exU]
  have r : Reach exU _ _ := Reach.apply (Reach.apply (Reach.apply Reach.init hC trivial) hB trivial) hA trivial
  have r' : Reach exU _ _ := Reach.apply Reach.init hA trivial
  exact Reach.merge r r'
example : exS.read.val = [9, 7] := by decide +kernel
example : MVSpec.maxPuts ([exA, exB, exC] ++ [exA]) = [(exB.clock, 7), (exC.clock, 9)] := by decide +kernel
example : (MVReg.init.apply exA |>.apply exB).read.val = [7, 7] := by decide +kernel
example : GenLog [(1, exB), (0, exA)] :=
  GenLog.write (s := MVReg.init) (K := []) 1 7
    (GenLog.write (s := MVReg.init) (K := []) 0 7 GenLog.nil Reach.init (fun e he => by cases he)) Reach.init (by decide)

end Crdt.C06
