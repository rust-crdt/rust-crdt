import CrdtModel.Props.C17
import CrdtModel.Proofs.List
/-!
# C16 — `validate_op` accepts every in-order op and rejects every gap

* **VClock** (src/vclock.rs:98-108): accepted iff the dot's counter is at most the next one; otherwise the error is
  exactly `DotRange { actor, next..counter }`.
* **Orswot** (src/orswot.rs:58-63): an `Add` is checked against the replica clock, an `Rm` is always accepted – for ALL
  states.  On REACHABLE states of a history whose log is well-formed and `Contiguous` per actor (what generation through
  the API gives) the clock test is exact: an add of the log is accepted iff all earlier adds of its author are known to
  the replica, and otherwise the verdict is `DotRange actor (clk+1)..counter`.
* **List** (src/list.rs:259-261): the same check on `op.dot()` against the list's clock (all states); it panics on an
  insert op carrying the empty identifier.  On reachable states of a history: `list_reach_deliverable_ok`,
  `list_reach_gap` in `Props/Addenda.lean`.
* **LWWReg**: conflict ⇔ equal marker ∧ different value (from C17); never under unique markers.
* **GCounter / PNCounter / GSet / MaxReg / MinReg / MVReg / GList**: `Validation = Infallible`, `validate_op` is the
  constant `Ok(())` in the Rust source (PNCounter delegates to GCounter's constant): the model has no function for a
  constant; the driver prints `ok` and the correspondence check compares it with the crate.
* Map: `Props/C16Map.lean`.  MerkleReg: `C15.validate_op_ok_iff`, `C15.validate_op_missing_iff` and their `_spec` forms.
-/
namespace Crdt.C16

section vclock
variable {α : Type} [LinOrd α]

theorem vclock_error (c : VClock α) (d : Dot α) (h : c.get d.actor + 1 < d.counter) :
    c.validateOp d = .error ⟨d.actor, c.get d.actor + 1, d.counter⟩ := VClock.validateOp_error c d h

theorem vclock_ok_iff (c : VClock α) (d : Dot α) : c.validateOp d = .ok () ↔ d.counter ≤ c.get d.actor + 1 :=
  VClock.validateOp_ok_iff c d

/-- the verdict is one of the two, decided by the gap test -/
theorem vclock_verdict (c : VClock α) (d : Dot α) :
    (d.counter ≤ c.get d.actor + 1 ∧ c.validateOp d = .ok ()) ∨
    (c.get d.actor + 1 < d.counter ∧ c.validateOp d = .error ⟨d.actor, c.get d.actor + 1, d.counter⟩) :=
  (Nat.lt_or_ge (c.get d.actor + 1) d.counter).symm.imp (fun h => ⟨h, (vclock_ok_iff c d).mpr h⟩)
    (fun h => ⟨h, vclock_error c d h⟩)

/-- a clock's own next dot and an already-seen (or stale) dot are accepted -/
theorem vclock_next_ok (c : VClock α) (a : α) : c.validateOp (c.inc a) = .ok () :=
  (vclock_ok_iff c _).mpr (Nat.le_refl _)
theorem vclock_seen_ok (c : VClock α) (d : Dot α) (h : d.counter ≤ c.get d.actor) : c.validateOp d = .ok () :=
  (vclock_ok_iff c d).mpr (Nat.le_succ_of_le h)

end vclock

section orswot
variable {M A : Type} [LinOrd M] [LinOrd A]
open OrswotSpec

theorem orswot_add_ok_iff (s : Orswot M A) (d : Dot A) (ms : List M) :
    s.validateOp (.add d ms) = .ok () ↔ d.counter ≤ s.clock.get d.actor + 1 := vclock_ok_iff s.clock d

theorem orswot_add_error (s : Orswot M A) (d : Dot A) (ms : List M) (h : s.clock.get d.actor + 1 < d.counter) :
    s.validateOp (.add d ms) = .error ⟨d.actor, s.clock.get d.actor + 1, d.counter⟩ := vclock_error s.clock d h

theorem orswot_rm_ok (s : Orswot M A) (c : VClock A) (ms : List M) : s.validateOp (.rm c ms) = .ok () := rfl

/-- what generation through the API gives: an actor's adds carry the counters 1, 2, 3, … without a gap -/
def Contiguous (U : List (OrswotOp M A)) : Prop :=
  ∀ d ms, OrswotOp.add d ms ∈ U →
    1 ≤ d.counter ∧ (1 < d.counter → ∃ ms', OrswotOp.add ⟨d.actor, d.counter - 1⟩ ms' ∈ U)

variable {U K : List (OrswotOp M A)} {s : Orswot M A}

theorem clk_lt_of_missing (wf : LogWF U) (cont : Contiguous U) (inv : OrswotSpec.Inv U K) {d' : Dot A} {ms' : List M}
    (hu : OrswotOp.add d' ms' ∈ U) (hk : OrswotOp.add d' ms' ∉ K) : clk K d'.actor < d'.counter :=
  Nat.lt_of_not_le fun hle => hk (add_mem_of_le_clk wf inv hu (cont d' ms' hu).1 hle)

theorem orswot_reach_ok (wf : LogWF U) (cont : Contiguous U) (h : orswotSys.Reach U s K) {d : Dot A} {ms : List M}
    (hu : OrswotOp.add d ms ∈ U) (preds : PredsIn U K d) : s.validateOp (.add d ms) = .ok () := by
  rewrite [orswot_add_ok_iff, (RepSys.reach_rep (R := orswotSys) wf h).2.clock]
  rcases Nat.lt_or_ge 1 d.counter with h1 | h1
  · -- the author's previous add is in the log, hence known
    obtain ⟨ms', hu'⟩ := (cont d ms hu).2 h1
    exact Nat.sub_le_iff_le_add.mp
      (le_clk (preds ⟨d.actor, d.counter - 1⟩ ms' hu' rfl (Nat.sub_lt (Nat.lt_trans Nat.one_pos h1) Nat.one_pos)))
  · exact Nat.le_trans h1 (Nat.le_add_left 1 _)

/-- **reject**: if applying would skip one of the author's adds, the verdict is the exact missing range -/
theorem orswot_reach_gap (wf : LogWF U) (cont : Contiguous U) (h : orswotSys.Reach U s K) {d : Dot A} {ms : List M}
    (hmiss : ∃ d' ms', OrswotOp.add d' ms' ∈ U ∧ d'.actor = d.actor ∧ d'.counter < d.counter ∧ OrswotOp.add d' ms' ∉ K) :
    s.validateOp (.add d ms) = .error ⟨d.actor, clk K d.actor + 1, d.counter⟩ := by
  obtain ⟨d', ms', hu', ha, hlt, hk⟩ := hmiss
  have r := RepSys.reach_rep (R := orswotSys) wf h
  have gap := Nat.lt_of_le_of_lt (clk_lt_of_missing wf cont r.1 hu' hk) hlt
  rewrite [ha, ← r.2.clock] at gap
  rewrite [← r.2.clock]
  exact orswot_add_error s d ms gap

/-- **exact**: on reachable states an add of the log is accepted iff none of its author's earlier adds is missing -/
theorem orswot_reach_ok_iff (wf : LogWF U) (cont : Contiguous U) (h : orswotSys.Reach U s K) {d : Dot A} {ms : List M}
    (hu : OrswotOp.add d ms ∈ U) : s.validateOp (.add d ms) = .ok () ↔ PredsIn U K d := by
  constructor
  · intro hok d' ms' hu' ha hlt
    refine Classical.byContradiction fun hk => ?_
    rewrite [orswot_reach_gap wf cont h ⟨d', ms', hu', ha, hlt, hk⟩] at hok
    cases hok
  · exact orswot_reach_ok wf cont h hu

/-- every op the delivery discipline allows is accepted (adds in author order, removes always) -/
theorem orswot_deliverable_ok (wf : LogWF U) (cont : Contiguous U) (h : orswotSys.Reach U s K) {op : OrswotOp M A}
    (hu : op ∈ U) (ok : OrswotSpec.Ok U K op) : s.validateOp op = .ok () := by
  cases op with
  | add d ms => exact orswot_reach_ok wf cont h hu ok
  | rm c ms => rfl

/-- an op the replica already knows – at its origin right after generation, or on re-delivery – is accepted -/
theorem orswot_known_ok (wf : LogWF U) (cont : Contiguous U) (h : orswotSys.Reach U s K) {op : OrswotOp M A}
    (hk : op ∈ K) : s.validateOp op = .ok () := by
  have r := RepSys.reach_rep (R := orswotSys) wf h
  exact orswot_deliverable_ok wf cont h (r.1.sub _ hk) (ok_of_mem r.1 hk)

/-- the op generated from the replica's own read context validates against that replica (before it is applied) -/
theorem orswot_own_add_ok (s : Orswot M A) (a : A) (m : M) :
    s.validateOp (Orswot.add m (s.readCtx.deriveAddCtx a)) = .ok () :=
  (orswot_add_ok_iff s _ _).mpr (Nat.le_refl _)

end orswot

section list
variable {τ α : Type} [LinOrd α]
open ListCrdt

/-- `validate_op` panics (inside `op.dot()`) exactly on an insert op carrying the empty identifier -/
theorem list_validate_panics_iff (s : ListCrdt τ α) (op : ListOp τ α) :
    s.validateOp op = none ↔ ∃ v, op = .insert ⟨[]⟩ v := by
  rw [← ListOp.dot_eq_none_iff, validateOp, Option.map_eq_none_iff]

theorem list_validate_eq (s : ListCrdt τ α) {op : ListOp τ α} {d : Dot α} (hd : op.dot = some d) :
    s.validateOp op = some (s.clock.validateOp d) := by simp [validateOp, hd]

theorem list_ok_iff (s : ListCrdt τ α) {op : ListOp τ α} {d : Dot α} (hd : op.dot = some d) :
    s.validateOp op = some (.ok ()) ↔ d.counter ≤ s.clock.get d.actor + 1 := by
  rw [list_validate_eq s hd, Option.some.injEq, vclock_ok_iff]

theorem list_error (s : ListCrdt τ α) {op : ListOp τ α} {d : Dot α} (hd : op.dot = some d)
    (h : s.clock.get d.actor + 1 < d.counter) :
    s.validateOp op = some (.error ⟨d.actor, s.clock.get d.actor + 1, d.counter⟩) := by
  rw [list_validate_eq s hd, vclock_error s.clock d h]

/-- ops built through the API validate at their origin (whatever the state) -/
theorem list_own_insert_ok (s : ListCrdt τ α) (ix : Nat) (x : τ) (a : α) :
    s.validateOp (s.insertIndex ix x a) = some (.ok ()) :=
  (list_ok_iff s (insertIndex_dot s ix x a)).mpr (Nat.le_refl _)

theorem list_own_delete_ok (s : ListCrdt τ α) (ix : Nat) (a : α) {op : ListOp τ α} (h : s.deleteIndex ix a = some op) :
    s.validateOp op = some (.ok ()) := by
  obtain ⟨id, _, rfl⟩ := deleteIndex_eq_some_iff.mp h
  exact (list_ok_iff s (d := s.clock.inc a) rfl).mpr (Nat.le_refl _)

/-- an op that `apply` would ignore as already seen is accepted (an op that `apply` would take is accepted iff it is
the author's next one: `list_ok_iff`) -/
theorem list_seen_ok (s : ListCrdt τ α) {op : ListOp τ α} {d : Dot α} (hd : op.dot = some d)
    (h : d.counter ≤ s.clock.get d.actor) : s.validateOp op = some (.ok ()) := (list_ok_iff s hd).mpr (Nat.le_succ_of_le h)

end list

section lww
variable {ν μ : Type} [DecidableEq ν] [LinOrd μ]

theorem lww_conflict_iff (s op : LWWReg ν μ) :
    s.validateOp op = .error .conflictingMarker ↔ (s.marker = op.marker ∧ op.val ≠ s.val) := C17.lww_merge_conflict_iff s op

theorem lww_ok_iff (s op : LWWReg ν μ) : s.validateOp op = .ok () ↔ ¬ (s.marker = op.marker ∧ op.val ≠ s.val) :=
  C17.lww_merge_ok_iff s op  -- stated for `validateMerge`: both are `validateUpdate` (`Model/Lattice.lean`)

theorem lww_ok_reachable (r0 : LWWReg ν μ) {U K : List (LWWReg ν μ)} {s op : LWWReg ν μ} (wf : UniqueMarkers r0 U)
    (h : (lwwSys r0).Reach U s K) (hop : op ∈ U) : s.validateOp op = .ok () :=
  have r := RepSys.reach_rep (R := lwwSys r0) wf h
  C17.lww_ok_of_unique wf (r.2.1.imp id (r.1 s)) (Or.inr hop)

end lww

/-! ## non-vacuity -/
section examples
open OrswotSpec
def exU : List (OrswotOp Nat Nat) := [.add ⟨0, 1⟩ [5], .add ⟨0, 2⟩ [6]]
example : LogWF exU ∧ Contiguous exU :=
  ⟨.of_nodup (by decide) (by decide), fun d ms h => by
    rcases h with _ | ⟨_, _ | ⟨_, ⟨⟩⟩⟩
    · exact ⟨Nat.le_refl 1, fun h => absurd h (Nat.lt_irrefl 1)⟩
    · exact ⟨by decide, fun _ => ⟨[5], List.mem_cons_self⟩⟩⟩
/-- the empty replica accepts the first add and rejects the second with the exact range `0: 1..2` -/
example : (Orswot.init : Orswot Nat Nat).validateOp (.add ⟨0, 1⟩ [5]) = .ok () ∧
    (Orswot.init : Orswot Nat Nat).validateOp (.add ⟨0, 2⟩ [6]) = .error ⟨0, 1, 2⟩ := ⟨rfl, rfl⟩
end examples

end Crdt.C16
