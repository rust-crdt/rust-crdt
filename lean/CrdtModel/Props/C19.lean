import CrdtModel.Spec.Codec
import CrdtModel.Proofs.Codec
import CrdtModel.Spec.Lattice
import CrdtModel.Spec.MVReg
import CrdtModel.Props.C04
import CrdtModel.Proofs.MerkleReg
/-!
# C19 — serialised replicas and ops round-trip and resume identically

`Model/Codec.lean` models, type by type, what the crate's `#[derive(Serialize, Deserialize)]` impls produce with
serde_json; the correspondence profiles `persist_hist` / `serde_vectors` of `harness/src/gen.rs` compare the text printed
from its JSON trees with the real crate's (`HashMap` entries put in key order).  For ALL values, no size bound: what
decodes from an encoding is structurally the value encoded; a type without a `deferred` table always encodes, while an
`Orswot` or `Map` fails to encode iff some `deferred` table, at any nesting level, is non-empty, then with
`key must be a string` (known defect F9, `Witness/SerdeDeferred.lean`); hence replacing a replica's state by
`decode (encode s)` at any point of any derivation changes nothing (`persist_anywhere`).  The theorems are
`Codec.RoundTrip` / `Total` / `OnlyKeyError` of `Proofs/Codec.lean` unfolded (`x_roundtrip` here, `x_roundTrip` there; the
helpers `orOpC_`, `mvC_`, `mvOpC_roundTrip` stay folded): they read without that file and are accepted where the folded
form is asked for.

Element types enter through their codecs, whose hypotheses `Scalar.Lawful` / `Codec.RoundTrip` / `Codec.Total` are PROVED
for `u64` (`Scalar.nat_lawful`), the instantiation of the driver's persistence runs, MerkleReg apart.  Not covered by a
proof: the driver's codecs for MerkleReg's hashes (`mhCodec`, `Driver/Sut/Merkle.lean`; here the hash codec is a
parameter) and for the strings, chars and 32-byte hashes (`hashC`) of the pinned test vectors (`Driver/Sut/Serde.lean`).
-/
-- a statement takes along the section's `[LinOrd _]` of every type it mentions, needed by its proof or not
set_option linter.unusedSectionVars false
namespace Crdt.C19

section codecs
variable {α M K V VOp ν μ τ H : Type} [LinOrd α]

theorem dot_roundtrip {a : Codec α} (ha : a.RoundTrip) (d : Dot α) (j : Json) (h : (dotCodec a).enc d = .ok j) :
    (dotCodec a).dec j = some d := dot_roundTrip ha d j h

theorem vclock_roundtrip {k : KeyCodec α} (hk : k.RoundTrip) (c : VClock α) (j : Json) (h : (clockCodec k).enc c = .ok j) :
    (clockCodec k).dec j = some c := clock_roundTrip hk c j h

theorem gcounter_roundtrip {k : KeyCodec α} (hk : k.RoundTrip) (s : GCounter α) (j : Json)
    (h : (gcounterCodec k).enc s = .ok j) : (gcounterCodec k).dec j = some s := gcounter_roundTrip hk s j h

theorem pncounter_roundtrip {k : KeyCodec α} (hk : k.RoundTrip) (s : PNCounter α) (j : Json)
    (h : (pncounterCodec k).enc s = .ok j) : (pncounterCodec k).dec j = some s :=
  (Fields.cons "p" (gcounter_roundTrip hk s.p) (.cons "n" (gcounter_roundTrip hk s.n) .nil)).struct_roundTrip PNCounter.mk h

theorem pncounter_op_roundtrip {a : Codec α} (ha : a.RoundTrip) (o : PNOp α) (j : Json)
    (h : (pnOpCodec a).enc o = .ok j) : (pnOpCodec a).dec j = some o :=
  (Fields.cons "dot" (dot_roundTrip ha o.dot) (.cons "dir" (dir_roundTrip o.dir) .nil)).struct_roundTrip PNOp.mk h

theorem gset_roundtrip [LinOrd τ] {m : Codec τ} (hm : m.RoundTrip) (s : GSet τ) (j : Json)
    (h : (gsetCodec m).enc s = .ok j) : (gsetCodec m).dec j = some s :=
  Codec.map_roundTrip (Codec.fset_roundTrip hm) (fun _ => rfl) s j h

theorem lwwreg_roundtrip {v : Codec ν} {m : Codec μ} (hv : v.RoundTrip) (hm : m.RoundTrip) (s : LWWReg ν μ) (j : Json)
    (h : (lwwCodec v m).enc s = .ok j) : (lwwCodec v m).dec j = some s :=
  (Fields.cons "val" (hv s.val) (.cons "marker" (hm s.marker) .nil)).struct_roundTrip LWWReg.mk h

theorem maxreg_roundtrip {v : Codec ν} (hv : v.RoundTrip) (s : MaxReg ν) (j : Json)
    (h : (maxregCodec v).enc s = .ok j) : (maxregCodec v).dec j = some s :=
  (Fields.cons "val" (hv s.val) .nil).struct_roundTrip MaxReg.mk h

theorem minreg_roundtrip {v : Codec ν} (hv : v.RoundTrip) (s : MinReg ν) (j : Json)
    (h : (minregCodec v).enc s = .ok j) : (minregCodec v).dec j = some s :=
  (Fields.cons "val" (hv s.val) .nil).struct_roundTrip MinReg.mk h

/-- the restored register is STRUCTURALLY the original (same `Vec`, same order), not just `==` -/
theorem mvreg_roundtrip {k : KeyCodec α} {v : Codec ν} (hk : k.RoundTrip) (hv : v.RoundTrip) (s : MVReg ν α) (j : Json)
    (h : (mvregCodec k v).enc s = .ok j) : (mvregCodec k v).dec j = some s :=
  Codec.map_roundTrip (Codec.list_roundTrip (Codec.pair_roundTrip (clock_roundTrip hk) hv)) (fun _ => rfl) s j h

theorem mvreg_op_roundtrip {k : KeyCodec α} {v : Codec ν} (hk : k.RoundTrip) (hv : v.RoundTrip) (o : MVOp ν α) (j : Json)
    (h : (mvOpCodec k v).enc o = .ok j) : (mvOpCodec k v).dec j = some o :=
  (Fields.cons "clock" (clock_roundTrip hk o.clock) (.cons "val" (hv o.val) .nil)).variant_roundTrip "Put" MVOp.mk h _
    fun _ => by dsimp only [mvOpCodec, Json.variant?]; exact if_pos rfl

variable [LinOrd M] [LinOrd K]

theorem orswot_roundtrip {m : Scalar M} {a : Scalar α} (hm : m.Lawful) (ha : a.Lawful) (s : Orswot M α) (j : Json)
    (h : (orswotCodec m a).enc s = .ok j) : (orswotCodec m a).dec j = some s :=
  (Fields.cons "clock" (clock_roundTrip ha.key s.clock)
    (.cons "entries" (Codec.fmapObj_roundTrip hm.key (clock_roundTrip ha.key) s.entries)
      (.cons "deferred" (deferred_roundTrip s.deferred) .nil))).struct_roundTrip Orswot.mk h

theorem orswot_op_roundtrip {m : Scalar M} {a : Scalar α} (hm : m.Lawful) (ha : a.Lawful) (o : OrswotOp M α) (j : Json)
    (h : (orswotOpCodec m a).enc o = .ok j) : (orswotOpCodec m a).dec j = some o := by
  cases o with
  | add d ms =>
    exact (Fields.cons "dot" (dot_roundTrip ha.rt d)
      (.cons "members" (Codec.list_roundTrip hm.rt ms) .nil)).variant_roundTrip "Add" OrswotOp.add h _
        fun _ => by dsimp only [orswotOpCodec, Json.variant?]; exact if_pos rfl
  | rm c ms =>
    exact (Fields.cons "clock" (clock_roundTrip ha.key c)
      (.cons "members" (Codec.list_roundTrip hm.rt ms) .nil)).variant_roundTrip "Rm" OrswotOp.rm h _
        fun _ => by dsimp only [orswotOpCodec, Json.variant?]; exact (if_neg (by simp)).trans (if_pos rfl)

/-- `Map` over ANY value type whose codec round-trips (hence at any nesting depth) -/
theorem map_roundtrip {k : Scalar K} {a : Scalar α} {v : Codec V} (hk : k.Lawful) (ha : a.Lawful) (hv : v.RoundTrip)
    (s : CMap K V α) (j : Json) (h : (mapCodec k a v).enc s = .ok j) : (mapCodec k a v).dec j = some s :=
  (Fields.cons "clock" (clock_roundTrip ha.key s.clock)
    (.cons "entries" (Codec.fmapObj_roundTrip hk.key (mapEntry_roundTrip ha hv) s.entries)
      (.cons "deferred" (deferred_roundTrip s.deferred) .nil))).struct_roundTrip CMap.mk h

/-- a map op round-trips if the key set of a remove, a `BTreeSet` held by the model as a list, is strictly increasing and
nested ops satisfy the nested type's condition `Q` (`MapOp.WF`).  `Map::rm` builds such ops (`MapP.wf_rm` in
`Proofs/SysPersist.lean`), and so does the driver's op parser (`sortDedupNat` of `Driver/Sut/Lattice.lean`). -/
theorem map_op_roundtrip {k : Scalar K} {a : Scalar α} {o : Codec VOp} {Q : VOp → Prop} (hk : k.Lawful) (ha : a.Lawful)
    (ho : o.RoundTripOn Q) (op : MapOp K VOp α) (wf : MapOp.WF Q op) (j : Json) (h : (mapOpCodec k a o).enc op = .ok j) :
    (mapOpCodec k a o).dec j = some op := by
  cases op with
  | rm c ks =>
    exact (Fields.cons "clock" (clock_roundTrip ha.key c)
      (.cons "keyset" (keyset_roundTripOn hk.rt ks wf) .nil)).variant_roundTrip "Rm" (MapOp.rm (VOp := VOp)) h _
        fun _ => by dsimp only [mapOpCodec, Json.variant?]; exact if_pos rfl
  | up d key vop =>
    exact (Fields.cons "dot" (dot_roundTrip ha.rt d)
      (.cons "key" (hk.rt key) (.cons "op" (ho vop wf) .nil))).variant_roundTrip "Up" MapOp.up h _
        fun _ => by dsimp only [mapOpCodec, Json.variant?]; exact (if_neg (by simp)).trans (if_pos rfl)

theorem bigint_roundtrip (z : Int) (j : Json) (h : bigIntCodec.enc z = .ok j) : bigIntCodec.dec j = some z :=
  bigInt_roundTrip z j h

theorem rational_roundtrip (r : Rat) (j : Json) (h : ratCodec.enc r = .ok j) : ratCodec.dec j = some r :=
  rat_roundTrip r j h

theorem identifier_roundtrip {m : Codec τ} (hm : m.RoundTrip) (i : Identifier τ) (j : Json)
    (h : (identCodec m).enc i = .ok j) : (identCodec m).dec j = some i := ident_roundTrip hm i j h

theorem glist_roundtrip [LinOrd τ] {m : Codec τ} (hm : m.RoundTrip) (s : GList τ) (j : Json)
    (h : (glistCodec m).enc s = .ok j) : (glistCodec m).dec j = some s :=
  Codec.map_roundTrip (Codec.fset_roundTrip (ident_roundTrip hm)) (fun _ => rfl) s j h

theorem glist_op_roundtrip {m : Codec τ} (hm : m.RoundTrip) (o : GListOp τ) (j : Json)
    (h : (glistOpCodec m).enc o = .ok j) : (glistOpCodec m).dec j = some o :=
  (Fields.cons "id" (ident_roundTrip hm o.id) .nil).variant_roundTrip "Insert" GListOp.insert h _
    fun _ => by dsimp only [glistOpCodec, Json.variant?]; exact if_pos rfl

theorem list_roundtrip {a : Scalar α} {v : Codec τ} (ha : a.Lawful) (hv : v.RoundTrip) (s : ListCrdt τ α) (j : Json)
    (h : (listCodec a v).enc s = .ok j) : (listCodec a v).dec j = some s :=
  (Fields.cons "seq" (Codec.fmapVec_roundTrip (ident_roundTrip (ordDot_roundTrip ha.rt)) hv s.seq)
    (.cons "clock" (clock_roundTrip ha.key s.clock) .nil)).struct_roundTrip ListCrdt.mk h

theorem list_op_roundtrip {a : Scalar α} {v : Codec τ} (ha : a.Lawful) (hv : v.RoundTrip) (o : ListOp τ α) (j : Json)
    (h : (listOpCodec a v).enc o = .ok j) : (listOpCodec a v).dec j = some o := by
  cases o with
  | insert i x =>
    exact (Fields.cons "id" (ident_roundTrip (ordDot_roundTrip ha.rt) i)
      (.cons "val" (hv x) .nil)).variant_roundTrip "Insert" ListOp.insert h _
        fun _ => by dsimp only [listOpCodec, Json.variant?]; exact if_pos rfl
  | delete i d =>
    exact (Fields.cons "id" (ident_roundTrip (ordDot_roundTrip ha.rt) i)
      (.cons "dot" (dot_roundTrip ha.rt d) .nil)).variant_roundTrip "Delete" (ListOp.delete (τ := τ)) h _
        fun _ => by dsimp only [listOpCodec, Json.variant?]; exact (if_neg (by simp)).trans (if_pos rfl)

variable [LinOrd H]

/-- `MerkleReg` over an abstract hash type (32 bytes in the crate), given a codec for it that round-trips -/
theorem merkle_roundtrip {hc : Codec H} {v : Codec τ} (hh : hc.RoundTrip) (hv : v.RoundTrip) (s : MerkleReg H τ) (j : Json)
    (h : (merkleCodec hc v).enc s = .ok j) : (merkleCodec hc v).dec j = some s :=
  (Fields.cons "roots" (Codec.fset_roundTrip hh s.roots)
    (.cons "dag" (Codec.fmapVec_roundTrip hh (node_roundTrip hh hv) s.dag)
      (.cons "orphans" (Codec.fmapVec_roundTrip hh (node_roundTrip hh hv) s.orphans) .nil))).struct_roundTrip MerkleReg.mk h

/-- the op of a `MerkleReg` is a `Node` -/
theorem merkle_op_roundtrip {hc : Codec H} {v : Codec τ} (hh : hc.RoundTrip) (hv : v.RoundTrip) (n : Node H τ) (j : Json)
    (h : (nodeCodec hc v).enc n = .ok j) : (nodeCodec hc v).dec j = some n := node_roundTrip hh hv n j h

/-- `MerkleReg` with hashes as byte lists, where the hash-codec hypothesis is discharged for `Codec.list Codec.nat`, which
is neither of the driver's two hash codecs (header) -/
theorem merkle_roundtrip_bytes {v : Codec τ} (hv : v.RoundTrip) (s : MerkleReg (List Nat) τ) (j : Json)
    (h : (merkleCodec (Codec.list Codec.nat) v).enc s = .ok j) : (merkleCodec (Codec.list Codec.nat) v).dec j = some s :=
  merkle_roundtrip (Codec.list_roundTrip Codec.nat_roundTrip) hv s j h

/-! ## which values can be encoded -/

theorem dot_encode_total {a : Codec α} (ha : a.Total) (d : Dot α) : ∃ j, (dotCodec a).enc d = .ok j := dot_total ha d

theorem vclock_encode_total {k : KeyCodec α} (c : VClock α) : ∃ j, (clockCodec k).enc c = .ok j := clock_total c

theorem gcounter_encode_total {k : KeyCodec α} (s : GCounter α) : ∃ j, (gcounterCodec k).enc s = .ok j := gcounter_total s

theorem pncounter_encode_total {k : KeyCodec α} (s : PNCounter α) : ∃ j, (pncounterCodec k).enc s = .ok j :=
  Except.bind_isOk (gcounter_total s.p) fun _ => Except.bind_isOk (gcounter_total s.n) fun _ => ⟨_, rfl⟩

theorem pncounter_op_encode_total {a : Codec α} (ha : a.Total) (o : PNOp α) : ∃ j, (pnOpCodec a).enc o = .ok j :=
  Except.bind_isOk (dot_total ha o.dot) fun _ => Except.bind_isOk (dir_total o.dir) fun _ => ⟨_, rfl⟩

theorem gset_encode_total [LinOrd τ] {m : Codec τ} (hm : m.Total) (s : GSet τ) : ∃ j, (gsetCodec m).enc s = .ok j :=
  Codec.map_total (Codec.fset_total hm) s

theorem lwwreg_encode_total {v : Codec ν} {m : Codec μ} (hv : v.Total) (hm : m.Total) (s : LWWReg ν μ) :
    ∃ j, (lwwCodec v m).enc s = .ok j :=
  Except.bind_isOk (hv s.val) fun _ => Except.bind_isOk (hm s.marker) fun _ => ⟨_, rfl⟩

theorem maxreg_encode_total {v : Codec ν} (hv : v.Total) (s : MaxReg ν) : ∃ j, (maxregCodec v).enc s = .ok j :=
  Except.bind_isOk (hv s.val) fun _ => ⟨_, rfl⟩

theorem minreg_encode_total {v : Codec ν} (hv : v.Total) (s : MinReg ν) : ∃ j, (minregCodec v).enc s = .ok j :=
  Except.bind_isOk (hv s.val) fun _ => ⟨_, rfl⟩

theorem mvreg_encode_total {k : KeyCodec α} {v : Codec ν} (hv : v.Total) (s : MVReg ν α) :
    ∃ j, (mvregCodec k v).enc s = .ok j :=
  Codec.map_total (Codec.list_total (Codec.pair_total clock_total hv)) s

theorem mvreg_op_encode_total {k : KeyCodec α} {v : Codec ν} (hv : v.Total) (o : MVOp ν α) :
    ∃ j, (mvOpCodec k v).enc o = .ok j :=
  Except.bind_isOk (clock_total o.clock) fun _ => Except.bind_isOk (hv o.val) fun _ => ⟨_, rfl⟩

/-- every Orswot OP can be encoded (a remove carries its clock as a value, not as a key) -/
theorem orswot_op_encode_total {m : Scalar M} {a : Scalar α} (hm : m.Lawful) (ha : a.Lawful) (o : OrswotOp M α) :
    ∃ j, (orswotOpCodec m a).enc o = .ok j := by
  cases o with
  | add d ms => exact Except.bind_isOk (dot_total ha.total d) fun _ => Except.bind_isOk (Codec.list_total hm.total ms) fun _ => ⟨_, rfl⟩
  | rm c ms => exact Except.bind_isOk (clock_total c) fun _ => Except.bind_isOk (Codec.list_total hm.total ms) fun _ => ⟨_, rfl⟩

theorem map_op_encode_total {k : Scalar K} {a : Scalar α} {o : Codec VOp} (hk : k.Lawful) (ha : a.Lawful) (ho : o.Total)
    (op : MapOp K VOp α) : ∃ j, (mapOpCodec k a o).enc op = .ok j := by
  cases op with
  | rm c ks => exact Except.bind_isOk (clock_total c) fun _ => Except.bind_isOk (keyset_total hk.total ks) fun _ => ⟨_, rfl⟩
  | up d key vop =>
    exact Except.bind_isOk (dot_total ha.total d) fun _ => Except.bind_isOk (hk.total key) fun _ =>
      Except.bind_isOk (ho vop) fun _ => ⟨_, rfl⟩

theorem identifier_encode_total {m : Codec τ} (hm : m.Total) (i : Identifier τ) : ∃ j, (identCodec m).enc i = .ok j := ident_total hm i

theorem glist_encode_total [LinOrd τ] {m : Codec τ} (hm : m.Total) (s : GList τ) : ∃ j, (glistCodec m).enc s = .ok j :=
  Codec.map_total (Codec.fset_total (ident_total hm)) s

theorem glist_op_encode_total {m : Codec τ} (hm : m.Total) (o : GListOp τ) : ∃ j, (glistOpCodec m).enc o = .ok j :=
  Except.bind_isOk (ident_total hm o.id) fun _ => ⟨_, rfl⟩

theorem list_encode_total {a : Scalar α} {v : Codec τ} (ha : a.Lawful) (hv : v.Total) (s : ListCrdt τ α) :
    ∃ j, (listCodec a v).enc s = .ok j :=
  Except.bind_isOk (Codec.fmapVec_total (ident_total (ordDot_total ha.total)) hv s.seq) fun _ =>
    Except.bind_isOk (clock_total s.clock) fun _ => ⟨_, rfl⟩

theorem list_op_encode_total {a : Scalar α} {v : Codec τ} (ha : a.Lawful) (hv : v.Total) (o : ListOp τ α) :
    ∃ j, (listOpCodec a v).enc o = .ok j := by
  cases o with
  | insert i x => exact Except.bind_isOk (ident_total (ordDot_total ha.total) i) fun _ => Except.bind_isOk (hv x) fun _ => ⟨_, rfl⟩
  | delete i d =>
    exact Except.bind_isOk (ident_total (ordDot_total ha.total) i) fun _ =>
      Except.bind_isOk (dot_total ha.total d) fun _ => ⟨_, rfl⟩

theorem merkle_encode_total {hc : Codec H} {v : Codec τ} (hh : hc.Total) (hv : v.Total) (s : MerkleReg H τ) :
    ∃ j, (merkleCodec hc v).enc s = .ok j :=
  Except.bind_isOk (Codec.fset_total hh s.roots) fun _ =>
    Except.bind_isOk (Codec.fmapVec_total hh (node_total hh hv) s.dag) fun _ =>
      Except.bind_isOk (Codec.fmapVec_total hh (node_total hh hv) s.orphans) fun _ => ⟨_, rfl⟩

theorem merkle_op_encode_total {hc : Codec H} {v : Codec τ} (hh : hc.Total) (hv : v.Total) (n : Node H τ) :
    ∃ j, (nodeCodec hc v).enc n = .ok j := node_total hh hv n

/-- F9 – an `Orswot` state cannot be encoded iff it holds a pending (deferred) remove -/
theorem orswot_encode_fails_iff {m : Scalar M} {a : Scalar α} (s : Orswot M α) :
    (∃ e, (orswotCodec m a).enc s = .error e) ↔ s.deferred.isEmpty = false := orswot_fails

/-- … and it can be encoded iff it holds none -/
theorem orswot_encode_ok_iff {m : Scalar M} {a : Scalar α} (s : Orswot M α) :
    (∃ j, (orswotCodec m a).enc s = .ok j) ↔ s.deferred.isEmpty = true := by
  rewrite [← Codec.not_fails_iff, orswot_fails]; simp

theorem orswot_error_text {m : Scalar M} {a : Scalar α} (s : Orswot M α) (e : String)
    (h : (orswotCodec m a).enc s = .error e) : e = "key must be a string" :=
  Except.onlyError_bind (clock_total.onlyKeyError _) (fun _ =>
    Except.onlyError_bind ((Codec.fmapObj_total clock_total).onlyKeyError _) fun _ =>
      Except.onlyError_bind (deferred_onlyKeyError _) fun _ => Except.onlyError_pure) e h

/-- F9 on reachable states – a reachable `Orswot` replica cannot be persisted iff it knows a pending remove, one whose
context is not covered by the adds it has seen: what every replica passes through when a remove overtakes an add -/
theorem orswot_reachable_encode_fails_iff {m : Scalar M} {a : Scalar α} {U K : List (OrswotOp M α)} {s : Orswot M α}
    (wf : OrswotSpec.LogWF U) (h : orswotSys.Reach U s K) :
    (∃ e, (orswotCodec m a).enc s = .error e) ↔ ∃ c ms, OrswotOp.rm c ms ∈ K ∧ OrswotSpec.pending K c := by
  rewrite [orswot_encode_fails_iff, ← Bool.not_eq_true, FMap.isEmpty_iff, Classical.not_forall]
  refine exists_congr fun c => ?_
  -- C04: the keys of `deferred` are the contexts of the known pending removes
  rewrite [← ne_eq, ← Option.isSome_iff_ne_none, (C04.rep wf h).def_some c]
  exact exists_and_right.symm

/-- F9 for `Map` at any nesting level – a `Map` cannot be encoded iff its own `deferred` table is non-empty or one of its
values cannot be encoded; `HD` is the value type's own "holds a non-empty deferred table somewhere" (False for `MVReg`,
`deferred ≠ ∅` for `Orswot`, this very statement again for a nested `Map`) -/
theorem map_encode_fails_iff {k : Scalar K} {a : Scalar α} {v : Codec V} {HD : V → Prop}
    (hv : ∀ x, (∃ e, v.enc x = .error e) ↔ HD x) (s : CMap K V α) :
    (∃ e, (mapCodec k a v).enc s = .error e) ↔
      (s.deferred.isEmpty = false ∨ ∃ key en, s.entries.get? key = some en ∧ HD en.val) := by
  simp only [← hv]; exact cmap_fails

theorem map_error_text {k : Scalar K} {a : Scalar α} {v : Codec V}
    (hv : ∀ x e, v.enc x = .error e → e = "key must be a string") (s : CMap K V α) (e : String)
    (h : (mapCodec k a v).enc s = .error e) : e = "key must be a string" :=
  Except.onlyError_bind (clock_total.onlyKeyError _) (fun _ =>
    Except.onlyError_bind (Codec.fmapObj_onlyKeyError (mapEntry_onlyKeyError hv) _) fun _ =>
      Except.onlyError_bind (deferred_onlyKeyError _) fun _ => Except.onlyError_pure) e h

end codecs

/-! ## `u64` (the driver's `natS` / `natK` / `natC` of `Driver/Persist.lean`) -/
abbrev NS := Scalar.nat
abbrev mvC : Codec (MVReg Nat Nat) := mvregCodec KeyCodec.nat Codec.nat
abbrev mvOpC : Codec (MVOp Nat Nat) := mvOpCodec KeyCodec.nat Codec.nat
abbrev orC : Codec (Orswot Nat Nat) := orswotCodec NS NS
abbrev orOpC : Codec (OrswotOp Nat Nat) := orswotOpCodec NS NS

theorem orswot_roundtrip_u64 (s : Orswot Nat Nat) (j : Json) (h : orC.enc s = .ok j) : orC.dec j = some s :=
  orswot_roundtrip Scalar.nat_lawful Scalar.nat_lawful s j h

theorem orOpC_roundTrip : orOpC.RoundTrip := orswot_op_roundtrip Scalar.nat_lawful Scalar.nat_lawful
theorem mvC_roundTrip : mvC.RoundTrip := mvreg_roundtrip KeyCodec.nat_roundTrip Codec.nat_roundTrip
theorem mvOpC_roundTrip : mvOpC.RoundTrip := mvreg_op_roundtrip KeyCodec.nat_roundTrip Codec.nat_roundTrip

/-- a `Map<u64, MVReg<u64,u64>, u64>` fails to encode iff its `deferred` is non-empty -/
theorem map_mvreg_encode_fails_iff (s : CMap Nat (MVReg Nat Nat) Nat) :
    (∃ e, (mapCodec NS NS mvC).enc s = .error e) ↔ s.deferred.isEmpty = false := by
  -- an `MVReg` always encodes: `HD` is `False`, and the disjunct about the values goes
  have hv (x : MVReg Nat Nat) : (∃ e, mvC.enc x = .error e) ↔ False :=
    iff_false_intro (Codec.not_fails_iff.mpr (mvreg_encode_total Codec.nat_total x))
  rewrite [map_encode_fails_iff hv s]
  simp only [and_false, exists_false, or_false]

theorem map_mvreg_roundtrip (s : CMap Nat (MVReg Nat Nat) Nat) (j : Json) (h : (mapCodec NS NS mvC).enc s = .ok j) :
    (mapCodec NS NS mvC).dec j = some s :=
  map_roundtrip Scalar.nat_lawful Scalar.nat_lawful mvC_roundTrip s j h

/-- a `Map<u64, Orswot<u64,u64>, u64>` fails to encode iff its own table or that of a nested set is non-empty -/
theorem map_orswot_encode_fails_iff (s : CMap Nat (Orswot Nat Nat) Nat) :
    (∃ e, (mapCodec NS NS orC).enc s = .error e) ↔
      (s.deferred.isEmpty = false ∨ ∃ key en, s.entries.get? key = some en ∧ en.val.deferred.isEmpty = false) :=
  map_encode_fails_iff (fun x => orswot_encode_fails_iff x) s

theorem map_orswot_roundtrip (s : CMap Nat (Orswot Nat Nat) Nat) (j : Json) (h : (mapCodec NS NS orC).enc s = .ok j) :
    (mapCodec NS NS orC).dec j = some s :=
  map_roundtrip Scalar.nat_lawful Scalar.nat_lawful orswot_roundtrip_u64 s j h

/-- a `Map<u64, Map<u64, MVReg>, u64>` fails to encode iff the outer table or that of an inner map is non-empty -/
theorem map_map_mvreg_encode_fails_iff (s : CMap Nat (CMap Nat (MVReg Nat Nat) Nat) Nat) :
    (∃ e, (mapCodec NS NS (mapCodec NS NS mvC)).enc s = .error e) ↔
      (s.deferred.isEmpty = false ∨ ∃ key en, s.entries.get? key = some en ∧ en.val.deferred.isEmpty = false) :=
  map_encode_fails_iff (fun x => map_mvreg_encode_fails_iff x) s

theorem map_map_mvreg_roundtrip (s : CMap Nat (CMap Nat (MVReg Nat Nat) Nat) Nat) (j : Json)
    (h : (mapCodec NS NS (mapCodec NS NS mvC)).enc s = .ok j) : (mapCodec NS NS (mapCodec NS NS mvC)).dec j = some s :=
  map_roundtrip Scalar.nat_lawful Scalar.nat_lawful map_mvreg_roundtrip s j h

/-- ops of the doubly nested map (`Up{Up{Put}}`, `Up{Rm}`, `Rm`) -/
theorem map_map_mvreg_op_roundtrip (op : MapOp Nat (MapOp Nat (MVOp Nat Nat) Nat) Nat)
    (wf : MapOp.WF (MapOp.WF (fun _ => True)) op) (j : Json)
    (h : (mapOpCodec NS NS (mapOpCodec NS NS mvOpC)).enc op = .ok j) :
    (mapOpCodec NS NS (mapOpCodec NS NS mvOpC)).dec j = some op :=
  map_op_roundtrip (k := NS) (a := NS) Scalar.nat_lawful Scalar.nat_lawful
    (map_op_roundtrip (k := NS) (a := NS) Scalar.nat_lawful Scalar.nat_lawful (mvOpC_roundTrip.on _)) op wf j h

theorem list_roundtrip_u64 (s : ListCrdt Nat Nat) (j : Json) (h : (listCodec NS Codec.nat).enc s = .ok j) :
    (listCodec NS Codec.nat).dec j = some s := list_roundtrip Scalar.nat_lawful Codec.nat_roundTrip s j h

theorem glist_roundtrip_u64 (s : GList Nat) (j : Json) (h : (glistCodec Codec.nat).enc s = .ok j) :
    (glistCodec Codec.nat).dec j = some s := glist_roundtrip Codec.nat_roundTrip s j h

section persist
variable {σ ω β : Type}

/-- the value read back is the value written -/
theorem restored_eq {c : Codec σ} (hc : c.RoundTrip) {s s' : σ} {j : Json} (he : c.enc s = .ok j) (hd : c.dec j = some s') :
    s' = s := hc.restored he hd

/-- … hence it behaves identically under EVERY later apply, merge, read, validate, `==` (any function of the state) -/
theorem restored_behaves_identically {c : Codec σ} (hc : c.RoundTrip) {s s' : σ} {j : Json} (he : c.enc s = .ok j)
    (hd : c.dec j = some s') (f : σ → β) : f s' = f s := by rw [restored_eq hc he hd]

/-- derivations that serialise a replica and continue with the deserialised value, at any points and any number of times,
produce exactly the states of the derivations without persistence -/
theorem persist_anywhere (R : RepSys σ ω) {c : Codec σ} (hc : c.RoundTrip) {U : List ω} {s : σ} {K : List ω} :
    R.ReachP c U s K ↔ R.Reach U s K := by
  refine ⟨fun h => ?_, fun h => ?_⟩
  · induction h with
    | init => exact .init
    | apply _ hu hok ih => exact .apply ih hu hok
    | merge _ _ ih1 ih2 => exact .merge ih1 ih2
    | persist _ he hd ih => exact hc.restored he hd ▸ ih
  · induction h with
    | init => exact .init
    | apply _ hu hok ih => exact .apply ih hu hok
    | merge _ _ ih1 ih2 => exact .merge ih1 ih2

/-- the same for the systems whose states are compared up to an equivalence (`MVReg`), where it is still the SAME states
that are derivable, not equivalent ones -/
theorem persist_anywhere_equiv (R : RepSysE σ ω) {c : Codec σ} (hc : c.RoundTrip) {U : List ω} {s : σ} {K : List ω} :
    R.ReachP c U s K ↔ R.Reach U s K := by
  refine ⟨fun h => ?_, fun h => ?_⟩
  · induction h with
    | init => exact .init
    | apply _ hu hok ih => exact .apply ih hu hok
    | merge _ _ ih1 ih2 => exact .merge ih1 ih2
    | persist _ he hd ih => exact hc.restored he hd ▸ ih
  · induction h with
    | init => exact .init
    | apply _ hu hok ih => exact .apply ih hu hok
    | merge _ _ ih1 ih2 => exact .merge ih1 ih2

/-- the same for ANY type given by `init` / `apply` / `merge`, with no representation theorem needed (below: Map over
any value type, List, GList).  `Runs` has no delivery discipline and no knowledge index (any op at any time); the
knowledge-indexed statements are `map_reach_persist_anywhere` and `list_reach_persist_anywhere` in `Props/Addenda.lean`. -/
theorem persist_anywhere_any {σ ω : Type} (S : StateSys σ ω) {c : Codec σ} (hc : c.RoundTrip) {s : σ} :
    S.RunsP c s ↔ S.Runs s := by
  refine ⟨fun h => ?_, fun h => ?_⟩
  · induction h with
    | init => exact .init
    | apply op _ ih => exact .apply op ih
    | merge _ _ ih1 ih2 => exact .merge ih1 ih2
    | persist _ he hd ih => exact hc.restored he hd ▸ ih
  · induction h with
    | init => exact .init
    | apply op _ ih => exact .apply op ih
    | merge _ _ ih1 ih2 => exact .merge ih1 ih2
end persist

section instances
variable {α M ν μ τ H : Type} [LinOrd α] [LinOrd M] [LinOrd H]

theorem orswot_persist_anywhere {m : Scalar M} {a : Scalar α} (hm : m.Lawful) (ha : a.Lawful)
    {U K : List (OrswotOp M α)} {s : Orswot M α} :
    orswotSys.ReachP (orswotCodec m a) U s K ↔ orswotSys.Reach U s K := persist_anywhere _ (orswot_roundtrip hm ha)

theorem mvreg_persist_anywhere {k : KeyCodec α} {v : Codec ν} (hk : k.RoundTrip) (hv : v.RoundTrip)
    {U K : List (MVOp ν α)} {s : MVReg ν α} :
    mvregSys.ReachP (mvregCodec k v) U s K ↔ mvregSys.Reach U s K := persist_anywhere_equiv _ (mvreg_roundtrip hk hv)

theorem gcounter_persist_anywhere {k : KeyCodec α} (hk : k.RoundTrip) {U K : List (Dot α)} {s : GCounter α} :
    gcounterSys.ReachP (gcounterCodec k) U s K ↔ gcounterSys.Reach U s K := persist_anywhere _ (gcounter_roundTrip hk)

theorem pncounter_persist_anywhere {k : KeyCodec α} (hk : k.RoundTrip) {U K : List (PNOp α)} {s : PNCounter α} :
    pncounterSys.ReachP (pncounterCodec k) U s K ↔ pncounterSys.Reach U s K := persist_anywhere _ (pncounter_roundtrip hk)

theorem vclock_persist_anywhere {k : KeyCodec α} (hk : k.RoundTrip) {U K : List (Dot α)} {s : VClock α} :
    vclockSys.ReachP (clockCodec k) U s K ↔ vclockSys.Reach U s K := persist_anywhere _ (clock_roundTrip hk)

theorem gset_persist_anywhere [LinOrd τ] {m : Codec τ} (hm : m.RoundTrip) {U K : List τ} {s : GSet τ} :
    gsetSys.ReachP (gsetCodec m) U s K ↔ gsetSys.Reach U s K := persist_anywhere _ (gset_roundtrip hm)

theorem merkle_persist_anywhere {hc : Codec H} {v : Codec τ} (hh : hc.RoundTrip) (hv : v.RoundTrip) (hash : Node H τ → H)
    {U K : List (Node H τ)} {s : MerkleReg H τ} :
    (MerkleSpec.merkleSys hash).ReachP (merkleCodec hc v) U s K ↔ (MerkleSpec.merkleSys hash).Reach U s K :=
  persist_anywhere _ (merkle_roundtrip hh hv)

theorem maxreg_persist_anywhere [LinOrd ν] {v : Codec ν} (hv : v.RoundTrip) (v0 : ν) {U K : List ν} {s : MaxReg ν} :
    (maxregSys v0).ReachP (maxregCodec v) U s K ↔ (maxregSys v0).Reach U s K := persist_anywhere _ (maxreg_roundtrip hv)

theorem minreg_persist_anywhere [LinOrd ν] {v : Codec ν} (hv : v.RoundTrip) (v0 : ν) {U K : List ν} {s : MinReg ν} :
    (minregSys v0).ReachP (minregCodec v) U s K ↔ (minregSys v0).Reach U s K := persist_anywhere _ (minreg_roundtrip hv)

theorem lwwreg_persist_anywhere [DecidableEq ν] [LinOrd μ] {v : Codec ν} {m : Codec μ} (hv : v.RoundTrip) (hm : m.RoundTrip)
    (r0 : LWWReg ν μ) {U K : List (LWWReg ν μ)} {s : LWWReg ν μ} :
    (lwwSys r0).ReachP (lwwCodec v m) U s K ↔ (lwwSys r0).Reach U s K := persist_anywhere _ (lwwreg_roundtrip hv hm)

/-- `Map` over any value type whose codec round-trips -/
theorem map_persist_anywhere {K V VOp : Type} [LinOrd K] {k : Scalar K} {a : Scalar α} {v : Codec V} (hk : k.Lawful)
    (ha : a.Lawful) (hv : v.RoundTrip) (ops : ValOps V VOp α) {s : CMap K V α} :
    (StateSys.mk CMap.init (CMap.apply ops) (CMap.merge ops)).RunsP (mapCodec k a v) s ↔
      (StateSys.mk CMap.init (CMap.apply ops) (CMap.merge ops)).Runs s :=
  persist_anywhere_any _ (map_roundtrip hk ha hv)

/-- `List`, which has no state merge in the crate, so `merge` is instantiated with "keep the left state" -/
theorem list_persist_anywhere {a : Scalar α} {v : Codec τ} (ha : a.Lawful) (hv : v.RoundTrip) {s : ListCrdt τ α} :
    (StateSys.mk ListCrdt.new ListCrdt.apply (fun x _ => x)).RunsP (listCodec a v) s ↔
      (StateSys.mk (ω := ListOp τ α) ListCrdt.new ListCrdt.apply (fun x _ => x)).Runs s :=
  persist_anywhere_any _ (list_roundtrip ha hv)

theorem glist_persist_anywhere [LinOrd τ] {m : Codec τ} (hm : m.RoundTrip) {s : GList τ} :
    (StateSys.mk GList.new GList.apply GList.merge).RunsP (glistCodec m) s ↔
      (StateSys.mk GList.new GList.apply GList.merge).Runs s :=
  persist_anywhere_any _ (glist_roundtrip hm)

end instances

/-! ## non-vacuity -/
example : ∃ j, orC.enc ((Orswot.init : Orswot Nat Nat).apply (.add ⟨0, 1⟩ [7])) = .ok j :=
  (orswot_encode_ok_iff _).mpr (by decide)
example : ∃ e, orC.enc ((Orswot.init : Orswot Nat Nat).apply (.rm ((∅ : VClock Nat).apply ⟨0, 5⟩) [1])) = .error e :=
  (orswot_encode_fails_iff _).mpr (by decide)

end Crdt.C19
