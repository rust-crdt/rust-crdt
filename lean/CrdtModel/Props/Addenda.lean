import CrdtModel.Props.C06
import CrdtModel.Props.C12
import CrdtModel.Props.C16
import CrdtModel.Props.C17Map
import CrdtModel.Props.C19
/-!
# Addenda – further cases of the properties C02, C03, C05, C06, C09, C10, C11, C16, C17, C19

Each theorem states a case of one English property that the Props file of that property does not state (for `Map`: the key-level
merge laws, union and absorption of C02 / C03 / C09), and stands in the namespace of its property, resting on the lemmas of that
property's files.  The cases that are NOT provable (the model – like the crate – violates them) are kernel-checked witnesses in
`Witness/NestedMore.lean`.
-/

/-! ## C02 / C03 / C09 for `Map`, key level -/
namespace Crdt.C02
open CMap OrswotSpec
variable {K V VOp A : Type} [LinOrd K] [LinOrd A] {ops : ValOps V VOp A} {U La Lb Lc : List (MapOp K VOp A)} {a b c : CMap K V A}

/-- merge of Maps is commutative at key level, for every value type, on all derivable states -/
theorem map_keys_merge_comm (wf : LogWF (keyLog U)) (ha : CMap.Reach ops U a La) (hb : CMap.Reach ops U b Lb) :
    (CMap.merge ops a b).keysView = (CMap.merge ops b a).keysView :=
  CMap.keys_converge wf (.merge ha hb) (.merge hb ha)
    (mem_keyLog_congr fun x => by simp only [List.mem_append]; exact Or.comm)

theorem map_keys_merge_assoc (wf : LogWF (keyLog U)) (ha : CMap.Reach ops U a La) (hb : CMap.Reach ops U b Lb)
    (hc : CMap.Reach ops U c Lc) :
    (CMap.merge ops (CMap.merge ops a b) c).keysView = (CMap.merge ops a (CMap.merge ops b c)).keysView :=
  CMap.keys_converge wf (.merge (.merge ha hb) hc) (.merge ha (.merge hb hc)) (fun o => by rw [List.append_assoc])

theorem map_keys_merge_idem (wf : LogWF (keyLog U)) (ha : CMap.Reach ops U a La) :
    (CMap.merge ops a a).keysView = a.keysView :=
  CMap.keys_converge wf (.merge ha ha) ha (mem_keyLog_congr fun x => by simp only [List.mem_append, or_self])
end Crdt.C02

namespace Crdt.C03
open CMap OrswotSpec
variable {K V VOp A : Type} [LinOrd K] [LinOrd A] {ops : ValOps V VOp A} {U La Lb Lt : List (MapOp K VOp A)} {a b t : CMap K V A}

/-- merging two Maps gives, at key level, the state of ANY replica that learned the union of their updates (by ops, merges, or both).
The hypothesis compares the KEY-level logs only: weaker than `∀ o, o ∈ Lt ↔ o ∈ La ∨ o ∈ Lb`. -/
theorem map_keys_merge_is_union (wf : LogWF (keyLog U)) (ha : CMap.Reach ops U a La) (hb : CMap.Reach ops U b Lb)
    (ht : CMap.Reach ops U t Lt) (e : ∀ o, o ∈ keyLog Lt ↔ (o ∈ keyLog La ∨ o ∈ keyLog Lb)) :
    (CMap.merge ops a b).keysView = t.keysView :=
  CMap.keys_converge wf (.merge ha hb) ht
    (fun o => by rewrite [keyLog_append, List.mem_append]; exact (e o).symm)
end Crdt.C03

namespace Crdt.C09
open CMap OrswotSpec
variable {K V VOp A : Type} [LinOrd K] [LinOrd A] {ops : ValOps V VOp A} {U La Lb : List (MapOp K VOp A)} {a b : CMap K V A}

/-- a stale Map state (old snapshot, own past, lagging peer) is absorbed at key level -/
theorem map_keys_stale_noop (wf : LogWF (keyLog U)) (ha : CMap.Reach ops U a La) (hb : CMap.Reach ops U b Lb)
    (sub : ∀ o, o ∈ Lb → o ∈ La) : (CMap.merge ops a b).keysView = a.keysView :=
  CMap.keys_converge wf (.merge ha hb) ha
    (mem_keyLog_congr fun x => ⟨fun h => (List.mem_append.mp h).elim id (sub x), List.mem_append_left _⟩)

/-- a re-delivered Map op changes nothing at key level.  (`ok` is the premise of `Reach.apply`; given `hk` it holds anyway, the
knowledge of a derivable state being closed under predecessors: `OrswotSpec.Inv.closed`.) -/
theorem map_keys_dup_noop (wf : LogWF (keyLog U)) (ha : CMap.Reach ops U a La) {op : MapOp K VOp A} (hu : op ∈ U) (hk : op ∈ La)
    (ok : OrswotSpec.Ok (keyLog U) (keyLog La) (keyOp op)) : (CMap.apply ops a op).keysView = a.keysView :=
  CMap.keys_converge wf (.apply ha hu ok) ha
    (mem_keyLog_congr fun x => ⟨fun h => (List.mem_cons.mp h).elim (· ▸ hk) id, List.mem_cons_of_mem _⟩)
end Crdt.C09

namespace Crdt.C05
variable {K V A : Type} [LinOrd K] [LinOrd A] {s : CMap K V A}
/-- `keys()` lists EVERY present key (completeness; soundness is `C05.keys_entry`) -/
theorem keys_complete (k : K) (h : (s.get k).val.isSome = true) : ∃ r ∈ s.keys, r.val = k := by
  simp only [CMap.get, Option.isSome_map] at h
  obtain ⟨en, hen⟩ := Option.isSome_iff_exists.mp h
  exact ⟨⟨s.clock, en.clock, k⟩, by
    simp only [CMap.keys, List.mem_map]
    exact ⟨(k, en), FMap.mem_l_iff.mpr hen, rfl⟩, rfl⟩
end Crdt.C05

namespace Crdt.C10
open VClock
variable {α : Type} [LinOrd α]
/-- `Less` is exact on ALL clocks (no `NoZero` needed) -/
theorem cmp_less_iff_all (a b : VClock α) : a.partialCmp b = some .lt ↔ a.le b ∧ ¬ b.le a :=
  partialCmp_lt_iff a b
end Crdt.C10

namespace Crdt.C17
variable {K V VOp A : Type} [LinOrd K] [LinOrd A] (ops : ValOps V VOp A)

/-- the WHOLE verdict of `Map::validate_merge` is symmetric (value types with a symmetric nested check) -/
theorem map_validateMerge_symmetric (hsym : ∀ v v', ops.validateMerge v v' = ops.validateMerge v' v) {s o : CMap K V A}
    (ws : Orswot.EntriesWF s.keysView.entries) (wo : Orswot.EntriesWF o.keysView.entries) :
    CMap.validateMerge ops s o = .ok () ↔ CMap.validateMerge ops o s = .ok () := by
  rw [CMap.validateMerge_ok_iff, CMap.validateMerge_ok_iff, C17.map_dot_check_symmetric ws wo, CMap.nestedHit_symm ops hsym]
end Crdt.C17

namespace Crdt.C16
open ListSpec
variable {τ A : Type} [LinOrd A]

/-- per actor the dots of the log are 1,2,3,… (what `insert_index`/`delete_index` give) -/
def ListContiguous (U : List (ListOp τ A)) : Prop :=
  ∀ op ∈ U, ∀ d, op.dot = some d → 1 < d.counter → ∃ o ∈ U, o.dot = some ⟨d.actor, d.counter - 1⟩

theorem list_reach_clock {U K : List (ListOp τ A)} {s : ListCrdt τ A} (wf : LogWF U) (h : listSys.Reach U s K) (a : A) :
    s.clock.get a = clk K a := (OpRepSys.reach_rep (R := listSys) wf h).2.clock a

/-- `List::validate_op` at history level, accept: every op the delivery discipline admits validates -/
theorem list_reach_deliverable_ok {U K : List (ListOp τ A)} {s : ListCrdt τ A} (wf : LogWF U) (cont : ListContiguous U)
    (h : listSys.Reach U s K) {op : ListOp τ A} (hu : op ∈ U) (ok : ListSpec.Ok U K op) :
    s.validateOp op = some (.ok ()) := by
  obtain ⟨d, hd, hpos⟩ := wf.dot_pos op hu
  rewrite [C16.list_ok_iff s hd, list_reach_clock wf h]
  by_cases h1 : d.counter = 1
  · rewrite [h1]; exact Nat.le_add_left 1 _
  · obtain ⟨o, hou, hod⟩ := cont op hu d hd (Nat.lt_of_le_of_ne hpos (Ne.symm h1))
    have hin : o ∈ K := ok.1 o hou d _ hd hod rfl (Nat.sub_lt hpos Nat.one_pos)
    exact Nat.le_add_of_sub_le (le_clk hin hod)

/-- `List::validate_op` at history level, reject: any op whose dot skips a counter of its author beyond what the replica knows
(`clk K`) gets the exact range.  (`op ∈ U` is not asked, `cont` not used: `C16.list_error` with the clock read off the history.) -/
theorem list_reach_gap {U K : List (ListOp τ A)} {s : ListCrdt τ A} (wf : LogWF U) (cont : ListContiguous U)
    (h : listSys.Reach U s K) {op : ListOp τ A} {d : Dot A} (hd : op.dot = some d)
    (hgap : clk K d.actor + 1 < d.counter) :
    s.validateOp op = some (.error ⟨d.actor, clk K d.actor + 1, d.counter⟩) := by
  rewrite [← list_reach_clock wf h] at hgap ⊢
  exact C16.list_error s hd hgap
end Crdt.C16

namespace Crdt.C19
open CMap
variable {K V VOp A : Type} [LinOrd K] [LinOrd A]

/-- `CMap.Reach` with a persistence step (encode, decode) allowed anywhere; declared in this namespace: `Crdt.C19.CMap.ReachP` -/
inductive CMap.ReachP (ops : ValOps V VOp A) (c : Codec (CMap K V A)) (U : List (MapOp K VOp A)) :
    CMap K V A → List (MapOp K VOp A) → Prop
  | init : ReachP ops c U CMap.init []
  | apply {s L op} : ReachP ops c U s L → op ∈ U → OrswotSpec.Ok (keyLog U) (keyLog L) (keyOp op) →
      ReachP ops c U (CMap.apply ops s op) (op :: L)
  | merge {s L s' L'} : ReachP ops c U s L → ReachP ops c U s' L' → ReachP ops c U (CMap.merge ops s s') (L ++ L')
  | persist {s L j s'} : ReachP ops c U s L → c.enc s = .ok j → c.dec j = some s' → ReachP ops c U s' L

/-- persistence steps anywhere in the KNOWLEDGE-INDEXED derivations of Map change nothing derivable -/
theorem map_reach_persist_anywhere (ops : ValOps V VOp A) {c : Codec (CMap K V A)} (hc : c.RoundTrip)
    {U L : List (MapOp K VOp A)} {s : CMap K V A} : CMap.ReachP ops c U s L ↔ CMap.Reach ops U s L := by
  constructor
  · intro h
    induction h with
    | init => exact .init
    | apply _ hu hok ih => exact .apply ih hu hok
    | merge _ _ ih1 ih2 => exact .merge ih1 ih2
    | persist _ he hd ih => exact hc.restored he hd ▸ ih
  · intro h
    induction h with
    | init => exact .init
    | apply _ hu hok ih => exact .apply ih hu hok
    | merge _ _ ih1 ih2 => exact .merge ih1 ih2

/-- the same for `List` (`listSys : OpRepSys`) -/
inductive ListReachP {τ α : Type} [LinOrd α] (c : Codec (ListCrdt τ α)) (U : List (ListOp τ α)) :
    ListCrdt τ α → List (ListOp τ α) → Prop
  | init : ListReachP c U listSys.init []
  | apply {s K op} : ListReachP c U s K → op ∈ U → listSys.Ok U K op → ListReachP c U (listSys.apply s op) (op :: K)
  | persist {s K j s'} : ListReachP c U s K → c.enc s = .ok j → c.dec j = some s' → ListReachP c U s' K

/-- persistence steps anywhere in the KNOWLEDGE-INDEXED derivations of `List` change nothing derivable -/
theorem list_reach_persist_anywhere {τ α : Type} [LinOrd α] {c : Codec (ListCrdt τ α)} (hc : c.RoundTrip)
    {U K : List (ListOp τ α)} {s : ListCrdt τ α} : ListReachP c U s K ↔ listSys.Reach U s K := by
  constructor
  · intro h
    induction h with
    | init => exact .init
    | apply _ hu hok ih => exact .apply ih hu hok
    | persist _ he hd ih => exact hc.restored he hd ▸ ih
  · intro h
    induction h with
    | init => exact .init
    | apply _ hu hok ih => exact .apply ih hu hok
end Crdt.C19

namespace Crdt.C11
open RepSys
variable {α : Type} [LinOrd α]

/-- PNCounter: exact read value as a function of the learned ops -/
theorem pncounter_read_closed {V K : List (PNOp α)} {s : PNCounter α} (h : pncounterSys.Reach V s K) :
    s.read = (((s.p.inner.dots.l.map (·.1)).map (fun a => listMax (dirCtr .pos a) K)).sum : Int) -
             (((s.n.inner.dots.l.map (·.1)).map (fun a => listMax (dirCtr .neg a) K)).sum : Int) := by
  have r := (reach_rep (R := pncounterSys) trivial h).2
  show ((s.p.read : Nat) : Int) - ((s.n.read : Nat) : Int) = _
  rw [GCounter.read_eq, GCounter.read_eq, VClock.sumVals_dots, VClock.sumVals_dots, funext r.1.2, funext r.2.2]
end Crdt.C11

namespace Crdt.C06
variable {ν α : Type} [LinOrd α]

/-- distinct positions of an API-generated log carry distinct clocks (also for equal values): the fact the docstrings of
`C06.genLog_wf` and `C06.genLog_read` (Props/C06.lean) state in words -/
theorem genLog_clocks_nodup {L : List (α × MVOp ν α)} (g : GenLog L) : (L.map (·.2.clock)).Nodup := by
  induction g with
  | nil => simp
  | @write L s K a v g hr hown ih =>
    have inv := genLog_inv g
    rewrite [List.map_cons, List.nodup_cons]
    refine ⟨fun hin => ?_, ih⟩
    obtain ⟨e, he, ee⟩ := List.mem_map.mp hin
    exact write_fresh_of_bound inv.1 inv.2.2 hr hown v e he ee
end Crdt.C06
