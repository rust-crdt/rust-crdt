import CrdtModel.Proofs.ResetRemoveMap
import CrdtModel.Props.C18
import CrdtModel.Spec.MapKeys
/-!
# C18 for `Map` — `Map::reset_remove(c)` (src/map.rs:90-119, after fix c462df9)

For EVERY value type (the record `ValOps`), hence for `Map<K, MVReg>`, `Map<K, Orswot>`, `Map<K, Map<…>>` at every depth.
Key level: `Map::reset_remove` is `Orswot::reset_remove` on the Orswot of keys, so every C18 theorem about `Orswot` holds for the
keys of a Map.  Value level: the value under a surviving key is the value type's own `reset_remove(c)` of the old value; a key
whose entry clock is covered disappears together with its value.  The laws – `rr ∅ = id`, `rr c2 ∘ rr c1 = rr (c1 ⊔ c2)`,
idempotence, commutation, preservation of the structural invariant – are equalities of whole Map states, for every value type
whose own `reset_remove` satisfies them (`RRLawful`); `MVReg` and `Orswot` do, and a Map over a lawful value type is itself
lawful, so the laws hold for `Map<K, Map<K, MVReg>>` and every deeper nesting.

The structural invariant `MapWF W`: Proofs/ResetRemoveMap.lean.  Its key-level part holds in every derivable Map state
(`map_reach_keys_wf`).
-/
namespace Crdt.C18
open CMap

section map
variable {K V VOp A : Type} [LinOrd K] [LinOrd A] (ops : ValOps V VOp A)

/-- **key level = Orswot of keys**, for every value type and all states / clocks -/
theorem map_key_level (s : CMap K V A) (c : VClock A) :
    (CMap.resetRemove ops s c).keysView = Orswot.resetRemove s.keysView c := CMap.resetRemove_sim ops s c

/-- the top clock: pointwise subtraction -/
theorem map_clock (s : CMap K V A) (c : VClock A) (a : A) :
    (CMap.resetRemove ops s c).clock.get a = if s.clock.get a > c.get a then s.clock.get a else 0 :=
  VClock.get_resetRemove s.clock c a

/-- **entry-wise**: the entry of `k` afterwards is the old entry with clock `− c` and value `V::reset_remove(c)`, dropped
when the subtracted clock is empty -/
theorem map_entry (s : CMap K V A) (c : VClock A) (k : K) :
    (CMap.resetRemove ops s c).entries.get? k =
      match s.entries.get? k with
      | some en => if (en.clock.resetRemove c).isEmpty then none
                   else some ⟨en.clock.resetRemove c, ops.resetRemove en.val c⟩
      | none => none := by
  rewrite [CMap.get?_resetRemove]
  cases s.entries.get? k <;> rfl

/-- what `get(k)` shows afterwards: the reset value of a surviving key, `None` otherwise -/
theorem map_value (s : CMap K V A) (c : VClock A) (k : K) :
    ((CMap.resetRemove ops s c).get k).val =
      match s.entries.get? k with
      | some en => if (en.clock.resetRemove c).isEmpty then none else some (ops.resetRemove en.val c)
      | none => none := by
  simp only [CMap.get, map_entry]
  cases s.entries.get? k with
  | none => rfl
  | some en => exact apply_ite (Option.map MapEntry.val) _ _ _

/-- **a key survives iff one of its witnesses is strictly newer than `c`** (well-formed entry clocks: of `MapWF W s` only the
key half is used, `W` is arbitrary) -/
theorem map_key_survives_iff {W : V → Prop} {s : CMap K V A} (wf : MapWF W s) (c : VClock A) (k : K) :
    ((CMap.resetRemove ops s c).get k).val.isSome = true ↔
      ∃ a, c.get a < Orswot.entryGet s.keysView.entries k a := by
  rw [← orswot_member_iff wf.keys c k, ← map_key_level ops s c, get?_keysView, CMap.get, Option.isSome_map, Option.isSome_map]

/-- the remove context of `get(k)` afterwards: the old witnesses that are strictly newer than `c` -/
theorem map_get_rm_clock (s : CMap K V A) (c : VClock A) (k : K) (a : A) :
    ((CMap.resetRemove ops s c).get k).rmClock.get a =
      if Orswot.entryGet s.keysView.entries k a > c.get a then Orswot.entryGet s.keysView.entries k a else 0 := by
  rewrite [← CMap.entryGet_keysView, map_key_level]; exact orswot_witness s.keysView c k a

/-- pending key removes: the contexts afterwards are the non-empty subtracted old contexts … -/
theorem map_deferred_contexts (s : CMap K V A) (c k : VClock A) :
    ((CMap.resetRemove ops s c).deferred.get? k).isSome = true ↔
      ∃ d, (s.deferred.get? d).isSome = true ∧ d.resetRemove c = k ∧ k.isEmpty = false :=
  orswot_deferred_contexts s.keysView c k

/-- … and each holds the UNION of the key sets of the old contexts that collide on it (what fix c462df9 established) -/
theorem map_deferred_members (s : CMap K V A) (c k : VClock A) (m : K) :
    (∃ T, (CMap.resetRemove ops s c).deferred.get? k = some T ∧ T.contains m = true) ↔
      ∃ d, (∃ T, s.deferred.get? d = some T ∧ T.contains m = true) ∧ d.resetRemove c = k ∧ k.isEmpty = false :=
  orswot_deferred_members s.keysView c k m

variable {ops} {W : V → Prop}

/-- the empty clock changes nothing -/
theorem map_empty (L : RRLawful ops W) {s : CMap K V A} (wf : MapWF W s) : CMap.resetRemove ops s ∅ = s :=
  CMap.resetRemove_empty L wf

/-- `c1` then `c2` = their join, as an equality of whole Map states (clock, entries incl. nested values, deferred) -/
theorem map_compose (L : RRLawful ops W) {s : CMap K V A} (wf : MapWF W s) (c1 c2 : VClock A) :
    CMap.resetRemove ops (CMap.resetRemove ops s c1) c2 = CMap.resetRemove ops s (c1.merge c2) :=
  CMap.resetRemove_comp L (VClock.rrComp_merge c1 c2) wf

/-- repeating is a no-op -/
theorem map_idem (L : RRLawful ops W) {s : CMap K V A} (wf : MapWF W s) (c : VClock A) :
    CMap.resetRemove ops (CMap.resetRemove ops s c) c = CMap.resetRemove ops s c :=
  CMap.resetRemove_comp L (VClock.rrComp_idem c) wf

/-- from composition, so for lawful value types on well-formed states; `IterOrder.map_resetRemove_comm` (Proofs/IterOrder.lean)
proves the same equation for ALL states from commutation of the value type's `reset_remove` alone (`IterOrder.RRComm`) -/
theorem map_commute (L : RRLawful ops W) {s : CMap K V A} (wf : MapWF W s) (c1 c2 : VClock A) :
    CMap.resetRemove ops (CMap.resetRemove ops s c1) c2 = CMap.resetRemove ops (CMap.resetRemove ops s c2) c1 := by
  rw [CMap.resetRemove_comp L (VClock.rrComp_merge c1 c2) wf, CMap.resetRemove_comp L (VClock.rrComp_merge c1 c2).swap wf]

/-- the structural invariant is preserved -/
theorem map_wf (L : RRLawful ops W) {s : CMap K V A} (wf : MapWF W s) (c : VClock A) :
    MapWF W (CMap.resetRemove ops s c) := CMap.mapWF_resetRemove L.wf_rr wf c

/-- **own clock**: subtracting the map's own clock empties the clock and every entry, hence every read
(entry clocks are below the map clock on derivable states: `map_reach_le`; of `MapWF W s` only the key half is used) -/
theorem map_own_clock {s : CMap K V A} (wf : MapWF W s)
    (hle : ∀ k a, Orswot.entryGet s.keysView.entries k a ≤ s.clock.get a) :
    (CMap.resetRemove ops s s.clock).clock = ∅ ∧ (CMap.resetRemove ops s s.clock).entries = ∅ ∧
      (CMap.resetRemove ops s s.clock).len.val = 0 := by
  have h := orswot_own_clock wf.keys hle
  rewrite [keysView_clock, ← map_key_level ops s s.clock] at h
  -- a table whose clocks make the empty table is empty
  have he : (CMap.resetRemove ops s s.clock).entries = ∅ :=
    FMap.ext fun k => Option.map_eq_none_iff.mp ((get?_keysView _ k).symm.trans (congrArg (·.get? k) h.2.1))
  exact ⟨h.1, he, by simp only [CMap.len, he]; rfl⟩

/-- a Map over a lawful value type is a lawful value type: all of the above holds at every nesting depth -/
theorem map_lawful (L : RRLawful ops W) (toNat : A → Nat) :
    RRLawful (CMap.valOps (K := K) ops toNat) (MapWF W) := CMap.rrLawful_map L toNat

end map

section instances
variable {K ν M A : Type} [LinOrd K] [LinOrd M] [LinOrd A] [DecidableEq ν]

theorem mvreg_lawful : RRLawful (MVReg.valOps : ValOps (MVReg ν A) (MVOp ν A) A) MVReg.ValsWF where
  wf_rr := fun _ c wf => MVReg.valsWF_resetRemove wf c
  comp := fun h _ wf => MVReg.resetRemove_comp h wf
  empty := fun _ wf => MVReg.resetRemove_empty wf

theorem orswot_lawful : RRLawful (Orswot.valOps : ValOps (Orswot M A) (OrswotOp M A) A) Orswot.StateWF where
  wf_rr := fun _ c wf => Orswot.stateWF_resetRemove wf c
  comp := fun h _ wf => Orswot.resetRemove_comp h wf
  empty := fun _ wf => Orswot.resetRemove_empty wf

/-- `Map<K, MVReg>` -/
theorem map_mvreg_compose {s : CMap K (MVReg ν A) A} (wf : MapWF MVReg.ValsWF s) (c1 c2 : VClock A) :
    CMap.resetRemove MVReg.valOps (CMap.resetRemove MVReg.valOps s c1) c2 = CMap.resetRemove MVReg.valOps s (c1.merge c2) :=
  map_compose mvreg_lawful wf c1 c2

/-- `Map<K, Orswot>` -/
theorem map_orswot_compose {s : CMap K (Orswot M A) A} (wf : MapWF Orswot.StateWF s) (c1 c2 : VClock A) :
    CMap.resetRemove Orswot.valOps (CMap.resetRemove Orswot.valOps s c1) c2 = CMap.resetRemove Orswot.valOps s (c1.merge c2) :=
  map_compose orswot_lawful wf c1 c2

/-- `Map<K, Map<K2, MVReg>>` (the nesting of the crate's own tests); deeper nestings iterate `map_lawful` -/
theorem map_map_mvreg_compose {K2 : Type} [LinOrd K2] (toNat : A → Nat)
    {s : CMap K (CMap K2 (MVReg ν A) A) A} (wf : MapWF (MapWF MVReg.ValsWF) s) (c1 c2 : VClock A) :
    CMap.resetRemove (CMap.valOps MVReg.valOps toNat) (CMap.resetRemove (CMap.valOps MVReg.valOps toNat) s c1) c2 =
      CMap.resetRemove (CMap.valOps MVReg.valOps toNat) s (c1.merge c2) :=
  map_compose (map_lawful mvreg_lawful toNat) wf c1 c2

theorem map_map_mvreg_empty {K2 : Type} [LinOrd K2] (toNat : A → Nat)
    {s : CMap K (CMap K2 (MVReg ν A) A) A} (wf : MapWF (MapWF MVReg.ValsWF) s) :
    CMap.resetRemove (CMap.valOps MVReg.valOps toNat) s ∅ = s :=
  map_empty (map_lawful mvreg_lawful toNat) wf

end instances

section reach
variable {K V VOp A : Type} [LinOrd K] [LinOrd A] {ops : ValOps V VOp A}
open OrswotSpec

/-- the key level of every derivable Map state (any value type; updates of each actor in issue order, key removes in any
order, duplicates, merges) satisfies the structural invariant -/
theorem map_reach_keys_wf {U L : List (MapOp K VOp A)} {s : CMap K V A} (wf : LogWF (keyLog U))
    (h : CMap.Reach ops U s L) : Orswot.StateWF s.keysView :=
  have r := CMap.keys_rep wf h
  stateWF_of_rep wf r.1 r.2

/-- … and its entry clocks are below the map clock (premise of `map_own_clock`) -/
theorem map_reach_le {U L : List (MapOp K VOp A)} {s : CMap K V A} (wf : LogWF (keyLog U))
    (h : CMap.Reach ops U s L) (k : K) (a : A) : Orswot.entryGet s.keysView.entries k a ≤ s.clock.get a :=
  (CMap.keys_rep wf h).2.entry_le_clock k a

end reach

/-! ## non-vacuity: a Map<_, MVReg> with a pending key remove and two entries -/
def exMV : MVReg Nat Nat := ⟨[((∅ : VClock Nat).apply ⟨0, 2⟩, 7)]⟩
def exMap : CMap Nat (MVReg Nat Nat) Nat :=
  ⟨(∅ : VClock Nat).apply ⟨0, 2⟩ |>.apply ⟨1, 1⟩,
   (∅ : FMap Nat (MapEntry (MVReg Nat Nat) Nat)).insert 3 ⟨(∅ : VClock Nat).apply ⟨0, 2⟩, exMV⟩
     |>.insert 4 ⟨(∅ : VClock Nat).apply ⟨1, 1⟩, ⟨[((∅ : VClock Nat).apply ⟨1, 1⟩, 8)]⟩⟩,
   (∅ : FMap (VClock Nat) (FSet Nat)).insert ((∅ : VClock Nat).apply ⟨2, 1⟩) (Orswot.setOfList [3])⟩

/-- resetting with {0:2} drops key 3 (and its value), keeps key 4 untouched and keeps the pending remove -/
example : ((CMap.resetRemove MVReg.valOps exMap ((∅ : VClock Nat).apply ⟨0, 2⟩)).entries.l.map (·.1)) = [4] := by decide +kernel
example : (CMap.resetRemove MVReg.valOps exMap ((∅ : VClock Nat).apply ⟨0, 2⟩)).deferred = exMap.deferred := by decide +kernel
/-- composition on the example (key level compared; the general statement is `map_compose`) -/
example : (CMap.resetRemove MVReg.valOps (CMap.resetRemove MVReg.valOps exMap ((∅ : VClock Nat).apply ⟨0, 1⟩)) ((∅ : VClock Nat).apply ⟨1, 1⟩)).keysView
    = (CMap.resetRemove MVReg.valOps exMap (((∅ : VClock Nat).apply ⟨0, 1⟩).merge ((∅ : VClock Nat).apply ⟨1, 1⟩))).keysView := by decide +kernel

end Crdt.C18
