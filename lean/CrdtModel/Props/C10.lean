import CrdtModel.Proofs.VClock
/-!
# C10 — VClock is a correct partial order with join, meet and forget

Most theorems restate a lemma of `Proofs/VClock.lean` (cite those when building on this); the order-theoretic ones are
proved here from them.
`NoZero` (no stored zero counter) is assumed exactly where Rust's structural `==` is involved; it is an
invariant of every API function (`noZero_*`), and `Witness.zero_breaks_cmp` shows it is needed.
-/
namespace Crdt.C10
open VClock
section general
variable {α : Type} [LinOrd α]

/-! ## comparison is exactly the pointwise order -/

theorem cmp_equal_iff {a b : VClock α} (ha : a.NoZero) (hb : b.NoZero) :
    a.partialCmp b = some .eq ↔ ∀ x, a.get x = b.get x :=
  (partialCmp_eq_iff a b).trans ⟨fun e _ => e ▸ rfl, ext_get ha hb⟩

theorem cmp_greater_iff {a b : VClock α} (ha : a.NoZero) (hb : b.NoZero) :
    a.partialCmp b = some .gt ↔ b.le a ∧ ¬ a.le b := partialCmp_gt_iff ha hb

/-- `ha`, `hb` are not used: `<` needs no canonical clocks (`Addenda.cmp_less_iff_all`), `>` does (`Witness/ZeroBreaksCmp.lean`) -/
theorem cmp_less_iff {a b : VClock α} (ha : a.NoZero) (hb : b.NoZero) :
    a.partialCmp b = some .lt ↔ a.le b ∧ ¬ b.le a := partialCmp_lt_iff a b

/-- "reports concurrent iff neither side dominates" -/
theorem cmp_none_iff (a b : VClock α) :
    a.partialCmp b = none ↔ ¬ a.le b ∧ ¬ b.le a := partialCmp_none_iff a b

/-- Rust's `a >= b` on clocks -/
theorem ge_iff (a b : VClock α) : a.ge b = true ↔ b.le a := VClock.ge_iff a b

theorem le_refl (a : VClock α) : a.le a := VClock.le_refl a
theorem le_trans {a b c : VClock α} : a.le b → b.le c → a.le c := VClock.le_trans
theorem le_antisymm {a b : VClock α} (ha : a.NoZero) (hb : b.NoZero) : a.le b → b.le a → a = b :=
  VClock.le_antisymm ha hb

/-- reflexivity on `partial_cmp` itself; so are `cmp_antisymm` (the duality `a < b ↔ b > a`) and `cmp_trans_lt` -/
theorem cmp_refl (a : VClock α) : a.partialCmp a = some .eq := (partialCmp_eq_iff a a).mpr rfl

theorem cmp_antisymm {a b : VClock α} (ha : a.NoZero) (hb : b.NoZero) :
    a.partialCmp b = some .lt ↔ b.partialCmp a = some .gt := by
  rw [cmp_less_iff ha hb, cmp_greater_iff hb ha]

theorem cmp_trans_lt {a b c : VClock α} (ha : a.NoZero) (hb : b.NoZero) (hc : c.NoZero)
    (h1 : a.partialCmp b = some .lt) (h2 : b.partialCmp c = some .lt) : a.partialCmp c = some .lt := by
  rewrite [partialCmp_lt_iff] at h1 h2 ⊢
  exact ⟨VClock.le_trans h1.1 h2.1, fun h => h1.2 (VClock.le_trans h2.1 h)⟩

/-! ## merge is the join, glb the meet -/

theorem merge_get (a b : VClock α) (x : α) : (a.merge b).get x = max (a.get x) (b.get x) := get_merge a b x
theorem merge_upper_left (a b : VClock α) : a.le (a.merge b) := fun x => get_merge a b x ▸ Nat.le_max_left _ _
theorem merge_upper_right (a b : VClock α) : b.le (a.merge b) := fun x => get_merge a b x ▸ Nat.le_max_right _ _
theorem merge_least {a b c : VClock α} (h1 : a.le c) (h2 : b.le c) : (a.merge b).le c :=
  fun x => get_merge a b x ▸ Nat.max_le.mpr ⟨h1 x, h2 x⟩

theorem glb_get (a b : VClock α) (x : α) : (a.glb b).get x = min (a.get x) (b.get x) := get_glb a b x
theorem glb_lower_left (a b : VClock α) : (a.glb b).le a := fun x => get_glb a b x ▸ Nat.min_le_left _ _
theorem glb_lower_right (a b : VClock α) : (a.glb b).le b := fun x => get_glb a b x ▸ Nat.min_le_right _ _
theorem glb_greatest {a b c : VClock α} (h1 : c.le a) (h2 : c.le b) : c.le (a.glb b) :=
  fun x => get_glb a b x ▸ Nat.le_min.mpr ⟨h1 x, h2 x⟩

/-! ## apply, inc -/

theorem apply_get (c : VClock α) (d : Dot α) (x : α) :
    (c.apply d).get x = if x = d.actor then max (c.get x) d.counter else c.get x := get_apply c d x
theorem apply_inflationary (c : VClock α) (d : Dot α) : c.le (c.apply d) := fun x => by
  rewrite [get_apply_max]; exact Nat.le_max_right _ _
theorem apply_monotone {a b : VClock α} (h : a.le b) (d : Dot α) : (a.apply d).le (b.apply d) := fun x => by
  rewrite [get_apply_max, get_apply_max]
  exact Nat.max_le.mpr ⟨Nat.le_max_left _ _, Nat.le_trans (h x) (Nat.le_max_right _ _)⟩
theorem inc_is_next (c : VClock α) (a : α) : c.inc a = ⟨a, c.get a + 1⟩ := inc_eq c a
theorem apply_inc_get (c : VClock α) (a x : α) :
    (c.apply (c.inc a)).get x = if x = a then c.get a + 1 else c.get x := get_apply_inc c a x

/-! ## reset_remove, intersection -/

/-- `reset_remove(c)` keeps exactly the entries strictly newer than `c` -/
theorem resetRemove_get (s c : VClock α) (x : α) :
    (s.resetRemove c).get x = if s.get x > c.get x then s.get x else 0 := get_resetRemove s c x

/-- `intersection` keeps exactly the equal entries -/
theorem intersection_get (l r : VClock α) (x : α) :
    (intersection l r).get x = if l.get x = r.get x then l.get x else 0 := get_intersection l r x

/-! ## validate_op accepts a dot iff it does not skip a counter -/

theorem validateOp_ok_iff (c : VClock α) (d : Dot α) :
    c.validateOp d = .ok () ↔ d.counter ≤ c.get d.actor + 1 := VClock.validateOp_ok_iff c d

theorem validateOp_error (c : VClock α) (d : Dot α) (h : c.get d.actor + 1 < d.counter) :
    c.validateOp d = .error ⟨d.actor, c.get d.actor + 1, d.counter⟩ := VClock.validateOp_error c d h

/-! ## no API call stores a zero counter -/

theorem noZero_new : (∅ : VClock α).NoZero := noZero_empty
theorem noZero_apply' {c : VClock α} (h : c.NoZero) (d : Dot α) : (c.apply d).NoZero := noZero_apply h d
theorem noZero_merge' {c : VClock α} (h : c.NoZero) (o : VClock α) : (c.merge o).NoZero := noZero_merge h o
theorem noZero_resetRemove' {c : VClock α} (h : c.NoZero) (o : VClock α) : (c.resetRemove o).NoZero :=
  noZero_resetRemove h o
theorem noZero_cloneWithout {c : VClock α} (h : c.NoZero) (o : VClock α) : (c.cloneWithout o).NoZero :=
  noZero_resetRemove h o
theorem noZero_glb' (c o : VClock α) : (c.glb o).NoZero := noZero_glb c o
theorem noZero_intersection' {l : VClock α} (h : l.NoZero) (r : VClock α) : (intersection l r).NoZero :=
  noZero_intersection h r
theorem noZero_fromIter' (ds : List (Dot α)) : (fromIter ds).NoZero := noZero_fromIter ds
theorem noZero_ofDot (d : Dot α) : (ofDot d).NoZero := noZero_apply noZero_empty d

/-! ## Dot order: same actor only (src/dot.rs:54-62) -/

theorem dot_cmp_some_iff (a b : Dot α) : (a.partialCmp b).isSome = true ↔ a.actor = b.actor := by
  unfold Dot.partialCmp; by_cases h : a.actor = b.actor <;> simp [h]

end general

/-! ## non-vacuity -/

def exA : VClock Nat := (∅ : VClock Nat).apply ⟨1, 2⟩ |>.apply ⟨2, 1⟩
def exB : VClock Nat := (∅ : VClock Nat).apply ⟨1, 1⟩ |>.apply ⟨3, 4⟩
example : exA.NoZero ∧ exB.NoZero := ⟨noZero_apply (noZero_apply noZero_empty _) _, noZero_apply (noZero_apply noZero_empty _) _⟩
example : exA.partialCmp exB = none := by decide +kernel
example : (exA.merge exB).partialCmp exA = some .gt := by decide +kernel
example : (exA.glb exB).partialCmp exA = some .lt := by decide +kernel
example : (exA.resetRemove exB).get 1 = 2 ∧ (exA.resetRemove exB).get 2 = 1 ∧ (exB.resetRemove exA).get 1 = 0 := by decide +kernel

end Crdt.C10
