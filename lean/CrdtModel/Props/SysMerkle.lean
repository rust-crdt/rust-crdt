import CrdtModel.Proofs.SysMerkle
/-!
# MerkleReg theorems for every execution of the system – the only hypothesis left is "no hash collision in the log"

`Run hash c` : `c` is a configuration of a system in which every node was produced by `write(v, read().hashes())` at the
issuing replica's current state (`Spec/SysMerkle.lean`), nodes of the log are delivered in ANY order, any number of times,
and states are merged between replicas and with saved states.  `c.View s K` : `s` is the state of one of `c`'s replicas or
saved states and `K` the list of nodes it has received.

**The assumption.**  `inj : InjOn hash c.log` – `hash` (sha3 in the crate, abstract here) takes different values on
different nodes of the log of the run, i.e. on the nodes that ever exist.  It cannot be proved (the hash is a parameter) and
is threaded as ONE hypothesis; since the log only grows, it covers every earlier configuration of the run
(`injOn_of_steps`).  `Function.Injective hash` implies it (`injOn_of_injective`).  `run_reach` needs no hypothesis at all.

What C15 assumes about which nodes exist is proved here for runs: the children of every node are nodes of the log, created
before it (`run_children_first`), so the ancestors of an orphan exist (`run_eventually_visible`), and the written node was
never received before (`run_written_fresh`).
-/
namespace Crdt.SysMerkle
open MerkleSpec

section
variable {H : Type} [LinOrd H] {τ A : Type} [LinOrd A] {hash : Node H τ → H} {c : Cfg H τ A}
  {s s' s'' : MerkleReg H τ} {K K' K'' : List (Node H τ)}

/-- a globally injective hash is in particular collision-free on every log -/
theorem injOn_of_injective (hinj : ∀ a b : Node H τ, hash a = hash b → a = b) (l : List (Node H τ)) : InjOn hash l :=
  fun a _ b _ e => hinj a b e

/-- every replica state of every run is `Reach`-derivable over the run's log, with the replica's knowledge –
NO hypothesis, not even on `hash` -/
theorem run_reach (r : Run hash c) (i : A) : (merkleSys hash).Reach c.log (c.rep i) (c.know i) := (sysInv_run r).reach i

theorem run_reach_snap (r : Run hash c) {p : MerkleReg H τ × List (Node H τ)} (hp : p ∈ c.snaps) :
    (merkleSys hash).Reach c.log p.1 p.2 := (sysInv_run r).snaps p hp

theorem run_view_reach (r : Run hash c) (v : c.View s K) : (merkleSys hash).Reach c.log s K := (sysInv_run r).view v

theorem run_know_sub_log (r : Run hash c) (v : c.View s K) : ∀ n, n ∈ K → n ∈ c.log :=
  RepSys.reach_sub (run_view_reach r v)

/-- the well-formedness predicate of `merkleSys` for the log of the run IS the assumption -/
theorem run_wf (inj : InjOn hash c.log) : (merkleSys hash).WF c.log := inj

/-- every node of the log was created after all its children (the log is newest first) -/
theorem run_children_first (r : Run hash c) (inj : InjOn hash c.log) : ChildrenFirst hash c.log := childrenFirst_run r inj

/-- **closure**: every child hash of a node of the log is the hash of a node of the log -/
theorem run_children_in_log (r : Run hash c) (inj : InjOn hash c.log) {n : Node H τ} (hn : n ∈ c.log) {x : H}
    (hc : n.children.contains x = true) : ∃ m, m ∈ c.log ∧ hash m = x := (childrenFirst_run r inj).closed n hn x hc

/-- **acyclicity**: the child relation on the log is well-founded … -/
theorem run_acyclic (r : Run hash c) (inj : InjOn hash c.log) : WellFounded (Child hash c.log) :=
  ⟨(childrenFirst_run r inj).acc inj⟩

/-- … so no node is its own ancestor -/
theorem run_no_cycle (r : Run hash c) (inj : InjOn hash c.log) (n : Node H τ) :
    ¬ Relation.TransGen (Child hash c.log) n n :=
  (run_acyclic r inj).transGen.induction (C := fun n => ¬ Relation.TransGen (Child hash c.log) n n) n
    fun n ih h => ih n h h

/-- the ancestors of a node of the log are nodes of the log -/
theorem run_ancestors_in_log {m n : Node H τ} (hn : n ∈ c.log) (a : Anc hash c.log m n) : m ∈ c.log := a.mem_log hn

/-! ## corollaries of C15 -/

/-- **the state is a function of the set of received nodes**: two replicas / saved states of a run that have received the
same node set – in whatever orders, with whatever duplications and merges – are equal -/
theorem run_state_function_of_node_set (r : Run hash c) (inj : InjOn hash c.log) (v : c.View s K) (v' : c.View s' K')
    (e : ∀ n, n ∈ K ↔ n ∈ K') : s = s' :=
  C15.state_function_of_node_set inj (run_view_reach r v) (run_view_reach r v') e

theorem run_state_function_rep (r : Run hash c) (inj : InjOn hash c.log) (i j : A)
    (e : ∀ n, n ∈ c.know i ↔ n ∈ c.know j) : c.rep i = c.rep j := run_state_function_of_node_set r inj (.rep i) (.rep j) e

/-- the same across TIME: a state held at some point of a run and a state held any number of steps later -/
theorem run_state_function_later {c' : Cfg H τ A} (r : Run hash c) (st : Steps hash c c') (inj : InjOn hash c'.log)
    (v : c.View s K) (v' : c'.View s' K') (e : ∀ n, n ∈ K ↔ n ∈ K') : s = s' :=
  C15.state_function_of_node_set inj (reach_mono (steps_log_sub st) (run_view_reach r v)) (run_view_reach (r.steps st) v') e

theorem run_dag_eq_visible (r : Run hash c) (inj : InjOn hash c.log) (v : c.View s K) (x : H) (n : Node H τ) :
    s.dag.get? x = some n ↔ (hash n = x ∧ Visible hash K n) := C15.dag_eq_visible inj (run_view_reach r v) x n

theorem run_orphans_eq_invisible (r : Run hash c) (inj : InjOn hash c.log) (v : c.View s K) (x : H) (n : Node H τ) :
    s.orphans.get? x = some n ↔ (hash n = x ∧ n ∈ K ∧ ¬ Visible hash K n) :=
  C15.orphans_eq_invisible inj (run_view_reach r v) x n

/-- **`read()` = the DAG heads** of what has been received -/
theorem run_read_eq_heads (r : Run hash c) (inj : InjOn hash c.log) (v : c.View s K) (x : H) (n : Node H τ) :
    s.read.get? x = some n ↔ (hash n = x ∧ Head hash K n) := C15.read_eq_heads inj (run_view_reach r v) x n

/-- **a replica that has received every node of the log has no orphans and its dag is the whole log** (uses closure) -/
theorem run_no_orphans_when_complete (r : Run hash c) (inj : InjOn hash c.log) (v : c.View s K)
    (complete : ∀ n, n ∈ c.log → n ∈ K) :
    s.orphans = ∅ ∧ ∀ x n, s.dag.get? x = some n ↔ (hash n = x ∧ n ∈ c.log) := by
  have sub := run_know_sub_log r v
  have vis : ∀ n, n ∈ c.log → Visible hash K n := fun n hn =>
    visible_of_ancestors (childrenFirst_run r inj) inj hn fun m a => complete m (a.mem_log hn)
  constructor
  · refine FMap.ext_some fun x m => ⟨fun ho => ?_, fun h => by cases h⟩
    have hm := (run_orphans_eq_invisible r inj v x m).mp ho
    exact absurd (vis m (sub m hm.2.1)) hm.2.2
  · intro x n
    rewrite [run_dag_eq_visible r inj v x n]
    exact ⟨fun h => ⟨h.1, sub n h.2.1⟩, fun h => ⟨h.1, vis n h.2⟩⟩

/-- exactly when: a received node is visible iff all its ancestors (which ARE in the log, by closure) have been received -/
theorem run_visible_iff_ancestors (r : Run hash c) (inj : InjOn hash c.log) (v : c.View s K) {n : Node H τ}
    (hn : n ∈ K) : Visible hash K n ↔ ∀ m, Anc hash c.log m n → m ∈ K :=
  have sub := run_know_sub_log r v
  ⟨fun vis _ a => (ancestors_of_visible inj sub a vis).1, visible_of_ancestors (childrenFirst_run r inj) inj (sub n hn)⟩

/-- **an orphan becomes visible once all its ancestors have been delivered**: at any replica / saved state, at any time,
that has received `n` and all the ancestors of `n`, `n` is in the dag and no longer an orphan -/
theorem run_eventually_visible (r : Run hash c) (inj : InjOn hash c.log) (v : c.View s K) {n : Node H τ}
    (hn : n ∈ c.log) (hanc : ∀ m, Anc hash c.log m n → m ∈ K) :
    s.dag.get? (hash n) = some n ∧ s.orphans.get? (hash n) = none :=
  C15.visible_in_dag inj (run_view_reach r v) (visible_of_ancestors (childrenFirst_run r inj) inj hn hanc)

/-- … and until then it stays an orphan: a received node with an ancestor that has not been received is held in `orphans` -/
theorem run_orphan_until (r : Run hash c) (inj : InjOn hash c.log) (v : c.View s K) {n m : Node H τ} (hn : n ∈ K)
    (a : Anc hash c.log m n) (hm : m ∉ K) : s.orphans.get? (hash n) = some n :=
  (run_orphans_eq_invisible r inj v _ n).mpr
    ⟨rfl, hn, fun vis => hm ((run_visible_iff_ancestors r inj v hn).mp vis m a)⟩

/-- the step form: right after the delivery that supplies the last missing ancestor (of however many orphans, through
however long chains), all of them are in the dag, within that one `apply` -/
theorem run_deliver_resolves (r : Run hash c) (inj : InjOn hash c.log) (i : A) {nd : Node H τ} (hu : nd ∈ c.log)
    {n : Node H τ} (hn : n ∈ c.log) (hanc : ∀ m, Anc hash c.log m n → m ∈ nd :: c.know i) :
    (MerkleReg.apply hash (c.rep i) nd).dag.get? (hash n) = some n ∧
      (MerkleReg.apply hash (c.rep i) nd).orphans.get? (hash n) = none :=
  C15.orphan_becomes_visible inj (run_reach r i) hu (visible_of_ancestors (childrenFirst_run r inj) inj hn hanc)

/-! ## `write` -/

/-- the children listed by a write are exactly the hashes of the heads the writer reads -/
theorem run_written_children (r : Run hash c) (inj : InjOn hash c.log) (i : A) (v : τ) (x : H) :
    (c.written i v).children.contains x = true ↔ ∃ m, hash m = x ∧ Head hash (c.know i) m :=
  C15.hashes_read_contains inj (run_reach r i) x

/-- the node a write builds has never been received by its writer (it may exist already: another replica may have written
the same value on the same heads) -/
theorem run_written_fresh (r : Run hash c) (inj : InjOn hash c.log) (i : A) (v : τ) : c.written i v ∉ c.know i := by
  intro hk
  -- were it known it would be visible; a maximal visible node `m` above it (`exists_max`) is a head, so the written node
  -- lists `hash m` – but `m`, being maximal, is listed by no visible node
  have sub := run_know_sub_log r (.rep i)
  have kids := run_written_children r inj i v
  have ndVis : Visible hash (c.know i) (c.written i v) :=
    visible_of_lists_heads hash (fun _ h => h) hk (fun x => (kids x).mp)
  obtain ⟨m, _, vm, mx⟩ := (childrenFirst_run r inj).exists_max inj (Visible hash (c.know i)) ⟨_, sub _ hk, ndVis⟩
  have hd : Head hash (c.know i) m := ⟨vm, fun p vp => mx p (sub p vp.1) vp⟩
  have := hd.2 _ ndVis
  rewrite [(kids (hash m)).mpr ⟨m, rfl, hd⟩] at this
  cases this

/-- the written node is applied at once at its origin and is visible there at once (never an orphan).  Here and in the two
theorems below `inj` is over the log AFTER the write: they speak of the configuration the write leads to. -/
theorem run_write_visible (r : Run hash c) (i : A) (v : τ) (inj : InjOn hash (c.written i v :: c.log)) :
    ((c.gen hash i (c.written i v)).rep i).dag.get? (hash (c.written i v)) = some (c.written i v) := by
  refine (run_dag_eq_visible (r.step (.write c i v)) inj (.rep i) _ _).mpr ⟨rfl, ?_⟩
  rewrite [Cfg.gen_know_same]
  exact visible_of_lists_heads hash (fun _ => List.mem_cons_of_mem _) List.mem_cons_self
    fun x => (run_written_children r inj.tail i v x).mp

/-- **after `write i v` replica `i` reads exactly the new node**, provided no node it has received lists the new node.
Without `unlisted` this is false (`write_not_sole_head` below): a replica `j` in the same state may have created the very
same node and written `m` on top of it, and `m` may have overtaken it on the way to `i` (an orphan there); the node `i`
then writes resolves the orphan, and `m`, not the node written, is the head.
`unlisted` holds whenever the written node is new in the log (`run_write_replaces_heads_new`); the other hypothesis of
`C15.write_resolves`, `fresh`, is `run_written_fresh`.  `_partial`: the clause is proved under this side condition, not
for every write step. -/
theorem run_write_replaces_heads_partial (r : Run hash c) (i : A) (v : τ) (inj : InjOn hash (c.written i v :: c.log))
    (unlisted : ∀ m, m ∈ c.know i → m.children.contains (hash (c.written i v)) = false) :
    ((c.gen hash i (c.written i v)).rep i).read =
      (∅ : FMap H (Node H τ)).insert (hash (c.written i v)) (c.written i v) := by
  rewrite [Cfg.gen_rep_same]
  exact C15.write_resolves inj (reach_mono (fun _ => List.mem_cons_of_mem _) (run_reach r i)) v List.mem_cons_self
    (run_written_fresh r inj.tail i v) unlisted

/-- in particular when the written node is new (no replica has created the same node before) -/
theorem run_write_replaces_heads_new (r : Run hash c) (i : A) (v : τ) (inj : InjOn hash (c.written i v :: c.log))
    (new : c.written i v ∉ c.log) :
    ((c.gen hash i (c.written i v)).rep i).read =
      (∅ : FMap H (Node H τ)).insert (hash (c.written i v)) (c.written i v) := by
  refine run_write_replaces_heads_partial r i v inj fun m hm => Bool.eq_false_iff.mpr fun hc => ?_
  -- the log is closed: a node listing the written hash would put the written node into the log
  obtain ⟨m', hm', e⟩ := run_children_in_log r inj.tail (run_know_sub_log r (.rep i) m hm) hc
  exact new (inj m' (List.mem_cons_of_mem _ hm') _ List.mem_cons_self e ▸ hm')

/-! ## merge laws, duplicates -/

theorem run_merge_comm (r : Run hash c) (inj : InjOn hash c.log) (v : c.View s K) (v' : c.View s' K') :
    MerkleReg.merge hash s s' = MerkleReg.merge hash s' s :=
  C15.merge_comm inj (run_view_reach r v) (run_view_reach r v')

theorem run_merge_assoc (r : Run hash c) (inj : InjOn hash c.log) (v : c.View s K) (v' : c.View s' K')
    (v'' : c.View s'' K'') :
    MerkleReg.merge hash (MerkleReg.merge hash s s') s'' = MerkleReg.merge hash s (MerkleReg.merge hash s' s'') :=
  C15.merge_assoc inj (run_view_reach r v) (run_view_reach r v') (run_view_reach r v'')

theorem run_merge_idem (r : Run hash c) (inj : InjOn hash c.log) (v : c.View s K) : MerkleReg.merge hash s s = s :=
  C15.merge_idem inj (run_view_reach r v)

/-- merging two states of a run gives the state of anyone who received the union -/
theorem run_merge_is_union {t : MerkleReg H τ} {L : List (Node H τ)} (r : Run hash c) (inj : InjOn hash c.log)
    (v : c.View s K) (v' : c.View s' K') (vt : c.View t L) (e : ∀ n, n ∈ L ↔ (n ∈ K ∨ n ∈ K')) :
    MerkleReg.merge hash s s' = t :=
  C15.merge_is_union inj (run_view_reach r v) (run_view_reach r v') (run_view_reach r vt) e

/-- **a node received again changes nothing** – visible or still orphaned -/
theorem run_dup_noop (r : Run hash c) (inj : InjOn hash c.log) (v : c.View s K) {nd : Node H τ} (hk : nd ∈ K) :
    MerkleReg.apply hash s nd = s :=
  C15.duplicate_absorbed inj (run_view_reach r v) (run_know_sub_log r v nd hk) hk

/-- merging a state that has received nothing new (old snapshot, own past, lagging peer) changes nothing -/
theorem run_stale_noop (r : Run hash c) (inj : InjOn hash c.log) (v : c.View s K) (v' : c.View s' K')
    (sub : ∀ n, n ∈ K' → n ∈ K) : MerkleReg.merge hash s s' = s :=
  C15.stale_merge_absorbed inj (run_view_reach r v) (run_view_reach r v') sub

/-- `validate_op` accepts a node of the log at a replica iff all its children are hashes of visible nodes there – in
particular every replica that has received the whole log accepts everything -/
theorem run_validate_op_ok_iff (r : Run hash c) (inj : InjOn hash c.log) (v : c.View s K) (op : Node H τ) :
    s.validateOp op = .ok () ↔ ∀ x, op.children.contains x = true → VisH hash K x :=
  C15.validate_op_ok_iff_spec inj (run_view_reach r v) op

/-! ## the node a write builds, executably: `v` on the hashes of `headList (c.know i)` -/

def hashSet (hash : Node H τ → H) (l : List (Node H τ)) : FSet H := l.foldl (fun s n => s.insert (hash n) ()) ∅

theorem contains_hashSet (l : List (Node H τ)) (x : H) : (hashSet hash l).contains x = true ↔ ∃ m, m ∈ l ∧ hash m = x :=
  -- each insertion adds the hash of one node (`List.foldl_or`); the empty set it starts from holds nothing
  (List.foldl_or (fun (s : FSet H) n => s.insert (hash n) ()) (·.contains x = true) (hash · = x)
    (fun _ _ => FMap.contains_insert.trans (or_comm.trans (or_congr_right eq_comm))) l ∅).trans
    (or_iff_right Bool.false_ne_true)

theorem run_written_eq_spec (r : Run hash c) (inj : InjOn hash c.log) (i : A) (v : τ) :
    c.written i v = ⟨hashSet hash (headList hash (c.know i)), v⟩ := by
  have e : MerkleReg.hashes (c.rep i).read = hashSet hash (headList hash (c.know i)) := FMap.fset_ext fun x => by
    rewrite [Bool.eq_iff_iff, C15.hashes_read_contains inj (run_reach r i) x, contains_hashSet]
    simp only [C15.headList_spec, and_comm]
  simp only [Cfg.written, MerkleReg.write, e]

end

/-! ## non-vacuity: a concrete 7-step run built with the `Step` constructors

Sites 1, 2, 3; the hash of a node is its value (collision-free on this log).  Sites 1 and 2 write CONCURRENTLY (`mA`, `mB`);
`mB` is delivered to 1, which then reads both heads and writes the resolving `mC` on them; `mC` reaches site 3 FIRST (an
orphan), then `mA` (still an orphan: `mB` is missing), and finally 3 merges 2's state, which supplies `mB`. -/

def mA : Node Nat Nat := ⟨C15.exSet [], 1⟩
def mB : Node Nat Nat := ⟨C15.exSet [], 2⟩
def mC : Node Nat Nat := ⟨C15.exSet [1, 2], 3⟩

def e0 : Cfg Nat Nat Nat := Cfg.init
def e1 : Cfg Nat Nat Nat := e0.gen C15.exHash 1 (e0.written 1 1)
def e2 : Cfg Nat Nat Nat := e1.gen C15.exHash 2 (e1.written 2 2)
def e3 : Cfg Nat Nat Nat := e2.deliver C15.exHash 1 (e1.written 2 2)
def e4 : Cfg Nat Nat Nat := e3.gen C15.exHash 1 (e3.written 1 3)
def e5 : Cfg Nat Nat Nat := e4.deliver C15.exHash 3 (e3.written 1 3)
def e6 : Cfg Nat Nat Nat := e5.deliver C15.exHash 3 (e0.written 1 1)
def e7 : Cfg Nat Nat Nat := e6.mergeIn C15.exHash 3 (e6.rep 2) (e6.know 2)

theorem ex_run3 : Run C15.exHash e3 :=
  Run.step (Run.step (Run.step Run.init (Step.write e0 1 1)) (Step.write e1 2 2))
    (Step.deliver e2 1 (e1.written 2 2) List.mem_cons_self)

theorem ex_run6 : Run C15.exHash e6 :=
  Run.step (Run.step (Run.step ex_run3 (Step.write e3 1 3)) (Step.deliver e4 3 (e3.written 1 3) List.mem_cons_self))
    (Step.deliver e5 3 (e0.written 1 1) (List.mem_cons_of_mem _ (List.mem_cons_of_mem _ List.mem_cons_self)))

theorem ex_run : Run C15.exHash e7 := Run.step ex_run6 (Step.merge e6 3 2)

theorem ex_injOn (l : List (Node Nat Nat)) (h : ∀ n, n ∈ l → n ∈ [mC, mB, mA]) : InjOn C15.exHash l :=
  (InjOn.of_pairwise (by decide +kernel)).mono h

theorem ex_w0 : e0.written 1 1 = mA := by decide
theorem ex_w1 : e1.written 2 2 = mB := by decide
theorem ex_log3 : e3.log = [mB, mA] := by decide
theorem ex_know3 : e3.know 1 = [mB, mA] := by decide
/-- the resolving write lists both heads -/
theorem ex_w3 : e3.written 1 3 = mC := by
  rewrite [run_written_eq_spec ex_run3 (ex_injOn _ (by rewrite [ex_log3]; decide +kernel)), ex_know3]; decide +kernel

/-- the three writes, newest first: the log of `e4` and of every later configuration (deliveries and merges add nothing) -/
theorem ex_writes : [e3.written 1 3, e1.written 2 2, e0.written 1 1] = [mC, mB, mA] := by rw [ex_w3, ex_w1, ex_w0]
theorem ex_log : e7.log = [mC, mB, mA] := ex_writes
theorem ex_log6 : e6.log = [mC, mB, mA] := ex_writes
theorem ex_inj : InjOn C15.exHash e7.log := ex_injOn _ (by rewrite [ex_log]; exact fun _ h => h)

theorem ex_know6 : e6.know 3 = [mA, mC] := by
  have : e6.know 3 = [e0.written 1 1, e3.written 1 3] := by rfl
  rw [this, ex_w0, ex_w3]
theorem ex_know7 : e7.know 3 = [mA, mC, mB] := by
  have : e7.know 3 = e6.know 3 ++ [e1.written 2 2] := by rfl
  rewrite [this, ex_know6, ex_w1]; rfl

/-- before the merge `mC` is an orphan at site 3 although one of its two children has arrived; site 3 reads `mA` -/
example : (e6.rep 3).orphans.get? 3 = some mC ∧ (e6.rep 3).read.get? 1 = some mA := by
  have inj : InjOn C15.exHash e6.log := ex_injOn _ (by rewrite [ex_log6]; exact fun _ h => h)
  constructor
  · rewrite [run_orphans_eq_invisible ex_run6 inj (.rep 3) 3 mC, ex_know6]
    exact ⟨rfl, C15.orphanList_spec.mp (by decide +kernel)⟩
  · refine (run_read_eq_heads ex_run6 inj (.rep 3) 1 mA).mpr ⟨rfl, ?_⟩
    rewrite [ex_know6]; exact C15.headList_spec.mp (by decide +kernel)

/-- after the merge site 3 has received the whole log: no orphans, and it reads exactly the resolving node -/
example : (e7.rep 3).orphans = ∅ ∧ (e7.rep 3).read.get? 3 = some mC ∧ (e7.rep 3).read.get? 1 = none := by
  refine ⟨(run_no_orphans_when_complete ex_run ex_inj (.rep 3) (by rewrite [ex_log, ex_know7]; decide +kernel)).1, ?_, ?_⟩
  · refine (run_read_eq_heads ex_run ex_inj (.rep 3) 3 mC).mpr ⟨rfl, ?_⟩
    rewrite [ex_know7]; exact C15.headList_spec.mp (by decide +kernel)
  · exact C15.read_eq_none ex_inj (run_reach ex_run 3) 1 (by rewrite [ex_know7]; decide +kernel)

/-- the resolving write replaced both heads at site 1 (`mC` was new) -/
example : (e4.rep 1).read = (∅ : FMap Nat (Node Nat Nat)).insert 3 mC := by
  have h : (e4.rep 1).read = (∅ : FMap Nat (Node Nat Nat)).insert (C15.exHash (e3.written 1 3)) (e3.written 1 3) :=
    run_write_replaces_heads_new ex_run3 1 3
    (ex_injOn _ (by rewrite [ex_w3, ex_log3]; exact fun _ h => h)) (by rewrite [ex_w3, ex_log3]; decide)
  rewrite [ex_w3] at h
  exact h

/-- merge commutes on the (different) states of sites 3 and 1 -/
example : MerkleReg.merge C15.exHash (e7.rep 3) (e7.rep 1) = MerkleReg.merge C15.exHash (e7.rep 1) (e7.rep 3) :=
  run_merge_comm ex_run ex_inj (.rep 3) (.rep 1)

/-- the child relation of that log has no cycle -/
example : ¬ Relation.TransGen (Child C15.exHash e7.log) mC mC := run_no_cycle ex_run ex_inj mC

/-! ### the counterexample to `run_write_replaces_heads_partial` without `unlisted`

Site 2 writes 5 (`xA`) and then 6 on top of it (`xB`); `xB` overtakes `xA` and reaches site 1 (an orphan there); site 1,
still reading no head, writes 5: the SAME node `xA`.  Applying it resolves the orphan, and site 1 reads `xB`, not `xA`. -/
def xA : Node Nat Nat := ⟨C15.exSet [], 5⟩
def xB : Node Nat Nat := ⟨C15.exSet [5], 6⟩
def f1 : Cfg Nat Nat Nat := e0.gen C15.exHash 2 (e0.written 2 5)
def f2 : Cfg Nat Nat Nat := f1.gen C15.exHash 2 (f1.written 2 6)
def f3 : Cfg Nat Nat Nat := f2.deliver C15.exHash 1 (f1.written 2 6)
def f4 : Cfg Nat Nat Nat := f3.gen C15.exHash 1 (f3.written 1 5)

theorem fx_run1 : Run C15.exHash f1 := Run.step Run.init (Step.write e0 2 5)
theorem fx_run3 : Run C15.exHash f3 :=
  Run.step (Run.step fx_run1 (Step.write f1 2 6)) (Step.deliver f2 1 (f1.written 2 6) List.mem_cons_self)
theorem fx_run4 : Run C15.exHash f4 := Run.step fx_run3 (Step.write f3 1 5)

theorem fx_injOn (l : List (Node Nat Nat)) (h : ∀ n, n ∈ l → n ∈ [xB, xA]) : InjOn C15.exHash l :=
  (InjOn.of_pairwise (by decide)).mono h

theorem fx_w0 : e0.written 2 5 = xA := by decide
theorem fx_log1 : f1.log = [xA] := by decide
theorem fx_know1 : f1.know 2 = [xA] := by decide
theorem fx_w1 : f1.written 2 6 = xB := by
  rewrite [run_written_eq_spec fx_run1 (fx_injOn _ (by rewrite [fx_log1]; decide +kernel)), fx_know1]; decide +kernel
theorem fx_log3 : f3.log = [xB, xA] := by
  show [f1.written 2 6, e0.written 2 5] = _
  rw [fx_w1, fx_w0]
theorem fx_know3 : f3.know 1 = [xB] := by
  have : f3.know 1 = [f1.written 2 6] := by rfl
  rw [this, fx_w1]
/-- site 1 reads no head (it holds only an orphan), so it writes the very node `xA` that exists already -/
theorem fx_w3 : f3.written 1 5 = xA := by
  rewrite [run_written_eq_spec fx_run3 (fx_injOn _ (by rewrite [fx_log3]; exact fun _ h => h)), fx_know3]; decide +kernel
theorem fx_log4 : f4.log = [xA, xB, xA] := by
  show f3.written 1 5 :: f3.log = _
  rw [fx_w3, fx_log3]
theorem fx_know4 : f4.know 1 = [xA, xB] := by
  have : f4.know 1 = f3.written 1 5 :: f3.know 1 := by rfl
  rw [this, fx_w3, fx_know3]

/-- **the unrestricted statement is false**: a run, a write step of it, no hash collision – and afterwards the writer
reads a node other than the one it wrote -/
theorem write_not_sole_head :
    ∃ (c : Cfg Nat Nat Nat) (i v : Nat), Run C15.exHash c ∧ InjOn C15.exHash (c.written i v :: c.log) ∧
      ((c.gen C15.exHash i (c.written i v)).rep i).read ≠
        (∅ : FMap Nat (Node Nat Nat)).insert (C15.exHash (c.written i v)) (c.written i v) := by
  refine ⟨f3, 1, 5, fx_run3, fx_injOn _ (by rewrite [fx_w3, fx_log3]; decide), fun h => ?_⟩
  have inj4 : InjOn C15.exHash f4.log := fx_injOn _ (by rewrite [fx_log4]; decide)
  have hd : (f4.rep 1).read.get? 6 = some xB := by
    refine (run_read_eq_heads fx_run4 inj4 (.rep 1) 6 xB).mpr ⟨rfl, ?_⟩
    rewrite [fx_know4]; exact C15.headList_spec.mp (by decide)
  have h' : (f4.rep 1).read = (∅ : FMap Nat (Node Nat Nat)).insert (C15.exHash (f3.written 1 5)) (f3.written 1 5) := h
  rewrite [h', fx_w3] at hd
  exact absurd hd (by decide)

end Crdt.SysMerkle
