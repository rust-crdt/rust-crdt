import CrdtModel.Proofs.MapNestedOrswot
import CrdtModel.Props.C05
import CrdtModel.Props.C05Nested
/-!
# C05 (nested contents) — `Map<K, Orswot<M,A>, A>` under causal, op-only delivery: the nested READS are observed-remove

"After a key remove, everything the remover had seen under that key is gone at every replica, while updates it had not seen
remain."  For nested values this is FALSE in general for the crate (with state merges, with non-causal delivery, for
`MVReg` values: Props/C05.lean, Props/C05Nested.lean).  For **nested `Orswot` values under causal, op-only delivery** it is TRUE
of the nested *reads* and is proved here; the nested *states* may still differ by residue in the nested `deferred` table
(`NestedOrswotExample.states_differ_reads_agree`), so the theorems are about reads on purpose.

**Execution model** (`CMap.ReachC U s L`, Proofs/MapNestedOrswot.lean): `init` and `apply` only; `apply` has the premises of
`CMap.Reach.apply` plus the causal premise `CtxOk L op`: the context of a key remove and of a nested remove is pointwise below the
replica clock.  `CtxOk` is a premise of the model, not derived from an order on deliveries (why it stands for causal delivery: at its
definition); proved is that every generated op satisfies it at its origin (`SysMap.ctxOk_*`, Proofs/SysMap.lean).

**Log well-formedness** `NLogWF U` (ibid.): what generating every op through the API guarantees.

**Specification** (computable folds over the knowledge list `L`, Proofs/MapNestedOrswot.lean): `M2 L k m a` = newest nested add,
`θ2 L k m a` = cover by the known nested removes of `m` and key removes of `k`, `E2 L k m a = if M2 > θ2 then M2 else 0`.
-/
namespace Crdt.C05
open OrswotSpec CMap Orswot
section
variable {K M A : Type} [LinOrd K] [LinOrd M] [LinOrd A] {U L L' : List (NOp K M A)} {s s' : CMap K (Orswot M A) A}

/-- every derivation of the causal region is a derivation of the full execution model: all key-level theorems of C05 apply -/
theorem reachC_toReach (h : ReachC U s L) : CMap.Reach Orswot.valOps U s L := h.toReach

/-- under causal delivery no key remove is ever parked at Map level (`Map::apply_keyset_rm` never defers) -/
theorem map_deferred_empty (wf : NLogWF U) (h : ReachC U s L) : s.deferred = ∅ := h.deferred_empty wf

/-- the dedup gate of `Map::apply` fires only on re-delivered updates -/
theorem dedup_gate_mem (wf : NLogWF U) (h : ReachC U s L) {d : Dot A} {k : K} {o : OrswotOp M A} (hu : MapOp.up d k o ∈ U)
    (g : s.clock.get d.actor ≥ d.counter) : MapOp.up d k o ∈ L := h.gate_mem wf hu g

/-- **nested witnesses = specification**: for every key `k`, member `m` and actor `a`, the witness counter stored for `m` in the
nested set under `k` (0 = none; the default set if `k` is absent) is the newest known nested add of `m` under `k` by `a`, unless a
known nested remove of `m` under `k` or a known key remove of `k` covers it -/
theorem nested_orswot_witnesses (wf : NLogWF U) (h : ReachC U s L) (k : K) (m : M) (a : A) :
    Orswot.entryGet (((s.get k).val).getD Orswot.init).entries m a = E2 L k m a :=
  (nested_inv wf h k).wit m a

/-- the nested clock is pointwise below the Map clock -/
theorem nested_clock_le (wf : NLogWF U) (h : ReachC U s L) (k : K) (a : A) :
    (((s.get k).val).getD Orswot.init).clock.get a ≤ s.clock.get a :=
  (nested_inv wf h k).clk_le a

/-- every remove parked in a nested `deferred` table is a known remove: its context is accounted for in `θ2` for each
member it names, hence (causality) it is pointwise below the Map clock -/
theorem nested_deferred_known (wf : NLogWF U) (h : ReachC U s L) (k : K) (c' : VClock A) (S : FSet M)
    (hp : (((s.get k).val).getD Orswot.init).deferred.get? c' = some S) (m : M) (hm : S.contains m = true) (a : A) :
    c'.get a ≤ θ2 L k m a ∧ c'.get a ≤ s.clock.get a := by
  have h1 := (nested_inv wf h k).def_le c' m ⟨S, hp, hm⟩ a
  exact ⟨h1, Nat.le_trans h1 (h.clock wf a ▸ h.θ2_le_clk k m a)⟩

/-- the nested entries are well-formed: no empty witness clock, no stored zero -/
theorem nested_entries_wf (wf : NLogWF U) (h : ReachC U s L) (k : K) :
    EntriesWF (((s.get k).val).getD Orswot.init).entries :=
  (nested_inv wf h k).ewf

theorem read_getD_iff (o : Option (Orswot M A)) (m : M) :
    (∃ v, o = some v ∧ m ∈ v.read.val) ↔ ((o.getD Orswot.init).entries.get? m).isSome = true := by
  cases o with
  | none =>
    constructor
    · rintro ⟨_, ⟨⟩, _⟩
    · exact nofun
  | some v0 =>
    rewrite [Option.getD_some, ← mem_read_val_iff]
    constructor
    · rintro ⟨v, ⟨⟩, hm⟩; exact hm
    · exact fun hm => ⟨v0, rfl, hm⟩

/-- **observed-remove membership of the nested set**: `m` is read under `k` iff the replica knows a nested add of `m` under `k`
(dot `d`) such that every known nested remove of `m` under `k` and every known key remove of `k` has a context that does NOT
cover `d`.  So a member is gone iff every known add of it is covered by something a remover had seen; concurrent / unseen adds
survive. -/
theorem nested_orswot_member_iff (wf : NLogWF U) (h : ReachC U s L) (k : K) (m : M) :
    (∃ v, (s.get k).val = some v ∧ m ∈ v.read.val) ↔
      ∃ d d' ms, MapOp.up d k (OrswotOp.add d' ms) ∈ L ∧ m ∈ ms ∧
        (∀ d2 c' ms', MapOp.up d2 k (OrswotOp.rm c' ms') ∈ L → m ∈ ms' → c'.get d.actor < d.counter) ∧
        (∀ c ks, (MapOp.rm c ks : NOp K M A) ∈ L → k ∈ ks → c.get d.actor < d.counter) := by
  refine ((read_getD_iff _ m).trans ((nested_inv wf h k).present_iff m)).trans ⟨?_, ?_⟩
  · rintro ⟨a, ha⟩
    obtain ⟨d, d', ms, hin, rfl, hm, hlt⟩ := lt_M2_iff.mp ha
    obtain ⟨hn, hk⟩ := (θ2_lt_iff (wf.pos d k _ (h.sub _ hin))).mp hlt
    exact ⟨d, d', ms, hin, hm, hn, hk⟩
  · rintro ⟨d, d', ms, hin, hm, hn, hk⟩
    exact ⟨d.actor, lt_M2_iff.mpr ⟨d, d', ms, hin, rfl, hm, (θ2_lt_iff (wf.pos d k _ (h.sub _ hin))).mpr ⟨hn, hk⟩⟩⟩

/-- **everything the remover had seen is gone**: if the replica knows a key remove of `k` whose context covers every known
nested add of `m` under `k`, then `m` is not read under `k` – at every replica of the region, whatever the delivery order -/
theorem key_remove_wipes_seen (wf : NLogWF U) (h : ReachC U s L) (k : K) (m : M) {c : VClock A} {ks : List K}
    (hrm : (MapOp.rm c ks : NOp K M A) ∈ L) (hk : k ∈ ks)
    (hseen : ∀ d d' ms, MapOp.up d k (OrswotOp.add d' ms) ∈ L → m ∈ ms → d.counter ≤ c.get d.actor) :
    ¬ ∃ v, (s.get k).val = some v ∧ m ∈ v.read.val := by
  rewrite [nested_orswot_member_iff wf h k m]
  rintro ⟨d, d', ms, hin, hm, _, hcov⟩
  exact absurd (hseen d d' ms hin hm) (Nat.not_le.mpr (hcov c ks hrm hk))

/-- **what the removers had not seen remains**: a known nested add of `m` under `k` whose dot no known remove (nested remove of
`m` under `k`, key remove of `k`) covers keeps `m` in the nested set under `k` -/
theorem unseen_add_survives (wf : NLogWF U) (h : ReachC U s L) {k : K} {m : M} {d d' : Dot A} {ms : List M}
    (hin : MapOp.up d k (OrswotOp.add d' ms) ∈ L) (hm : m ∈ ms)
    (hn : ∀ d2 c' ms', MapOp.up d2 k (OrswotOp.rm c' ms') ∈ L → m ∈ ms' → c'.get d.actor < d.counter)
    (hk : ∀ c ks, (MapOp.rm c ks : NOp K M A) ∈ L → k ∈ ks → c.get d.actor < d.counter) :
    ∃ v, (s.get k).val = some v ∧ m ∈ v.read.val :=
  (nested_orswot_member_iff wf h k m).mpr ⟨d, d', ms, hin, hm, hn, hk⟩

/-- **same knowledge ⇒ same nested entries**: two replicas of the region that have learned the same ops hold, under every key,
the same presence and the same nested entries table (members with their witness clocks).  The nested `clock` and `deferred`
fields are NOT claimed equal (they are not: `NestedOrswotExample.states_differ_reads_agree`). -/
theorem nested_orswot_entries_converge (wf : NLogWF U) (h : ReachC U s L) (h' : ReachC U s' L') (e : ∀ o, o ∈ L ↔ o ∈ L')
    (k : K) : (s.get k).val.map (·.entries) = (s'.get k).val.map (·.entries) := by
  refine Option.eq_of_isSome_of_getD Orswot.init.entries ?_ ?_
  · rewrite [Option.isSome_map, Option.isSome_map]
    exact ((keys_converge wf.keys h.toReach h'.toReach e).2.2 k).1
  · rewrite [Option.getD_map (·.entries) Orswot.init, Option.getD_map (·.entries) Orswot.init]
    exact entries_ext (nested_entries_wf wf h k) (nested_entries_wf wf h' k) fun m a => by
      rw [nested_orswot_witnesses wf h, nested_orswot_witnesses wf h', E2_congr e]

/-- **the nested reads converge**: same knowledge ⇒ for every key the same nested member list (`read`), and for every member
the same `contains` answer with the same remove context -/
theorem nested_orswot_reads_converge (wf : NLogWF U) (h : ReachC U s L) (h' : ReachC U s' L') (e : ∀ o, o ∈ L ↔ o ∈ L')
    (k : K) :
    (s.get k).val.map (fun v => v.read.val) = (s'.get k).val.map (fun v => v.read.val) ∧
    ∀ m, (s.get k).val.map (fun v => ((v.contains m).val, (v.contains m).rmClock)) =
         (s'.get k).val.map (fun v => ((v.contains m).val, (v.contains m).rmClock)) := by
  -- both sides read the entries table only
  have key : ∀ {β : Type} (g : FMap M (VClock A) → β),
      (s.get k).val.map (fun v => g v.entries) = (s'.get k).val.map (fun v => g v.entries) := fun g => by
    have := congrArg (Option.map g) (nested_orswot_entries_converge wf h h' e k)
    rwa [Option.map_map, Option.map_map] at this
  exact ⟨key fun en => en.l.map Prod.fst, fun m => key fun en => ((en.get? m).isSome, (en.get? m).getD ∅)⟩
end

/-! ## non-vacuity and sharpness -/
namespace NestedOrswotExample

abbrev XOp := NOp Nat Nat Nat
abbrev xops : ValOps (Orswot Nat Nat) (OrswotOp Nat Nat) Nat := Orswot.valOps

theorem ctx_ofDot {K' : List (OrswotOp Nat Nat)} (d : Dot Nat) (h : d.counter ≤ clk K' d.actor) :
    ∀ a, (VClock.ofDot d).get a ≤ clk K' a := by
  intro a
  unfold VClock.ofDot
  rewrite [VClock.get_apply, VClock.get_empty]
  split
  · next e => rewrite [e, Nat.zero_max]; exact h
  · exact Nat.zero_le _

/-! ### a nested add, a concurrent nested add by another actor, a key remove that saw only the first -/

def a1 : XOp := .up ⟨1, 1⟩ 10 (.add ⟨1, 1⟩ [7])
def a2 : XOp := .up ⟨2, 1⟩ 10 (.add ⟨2, 1⟩ [8])
def r : XOp := .rm (VClock.ofDot ⟨1, 1⟩) [10]
def Ux : List XOp := [a1, a2, r]

/-- replica A delivers `a1`, `r`, `a2` (the log is newest first) -/
def LA : List XOp := [a2, r, a1]
def sA : CMap Nat (Orswot Nat Nat) Nat := [a1, r, a2].foldl (CMap.apply xops) CMap.init
def LB : List XOp := [r, a1, a2]
def sB : CMap Nat (Orswot Nat Nat) Nat := [a2, a1, r].foldl (CMap.apply xops) CMap.init

theorem posx : ∀ o ∈ keyLog Ux, ∀ d, addDot o = some d → 0 < d.counter := by decide

theorem wfx : NLogWF Ux :=
  { keys := .of_nodup (by decide) (by decide)
    -- the `rintro` pattern goes through the three ops of `Ux`: each nested add carries the dot of its update
    same_dot := by rintro d k d' ms (_ | ⟨_, _ | ⟨_, _ | ⟨_, ⟨⟩⟩⟩⟩) <;> rfl
    pos := fun d _ _ h => posx _ (up_mem_keyLog h) d rfl
    dots_unique := dotsUnique_of_nodup (by decide) }

theorem reachA : ReachC Ux sA LA := by
  -- unfold the fold syntactically first: unifying `sA` with `CMap.apply _ _ _` would evaluate the states
  simp only [sA, List.foldl_cons, List.foldl_nil]
  exact ReachC.init
    |>.apply (op := a1) (by simp [Ux]) (predsIn_one posx _) trivial
    |>.apply (op := r) (by simp [Ux]) trivial (ctx_ofDot _ (by decide))
    |>.apply (op := a2) (by simp [Ux]) (predsIn_one posx _) trivial

theorem reachB : ReachC Ux sB LB := by
  simp only [sB, List.foldl_cons, List.foldl_nil]
  exact ReachC.init
    |>.apply (op := a2) (by simp [Ux]) (predsIn_one posx _) trivial
    |>.apply (op := a1) (by simp [Ux]) (predsIn_one posx _) trivial
    |>.apply (op := r) (by simp [Ux]) trivial (ctx_ofDot _ (by decide))

/-- both replicas read exactly the member the remover had NOT seen: 8 stays, 7 is gone – in both causal orders -/
example : (sA.get 10).val.map (fun v => v.read.val) = some [8] ∧ (sB.get 10).val.map (fun v => v.read.val) = some [8] := by
  decide +kernel

/-- the specification, evaluated, IS what `CMap.apply` computed (both replicas; members 7, 8, 9; actors 1, 2, 3; keys 10, 20) -/
example : ∀ k ∈ [10, 20], ∀ m ∈ [7, 8, 9], ∀ a ∈ [1, 2, 3],
    Orswot.entryGet (((sA.get k).val).getD Orswot.init).entries m a = E2 LA k m a ∧
    Orswot.entryGet (((sB.get k).val).getD Orswot.init).entries m a = E2 LB k m a := by decide +kernel

/-- … and the theorems apply to this history (their hypotheses are satisfiable) -/
example (k m a : Nat) : Orswot.entryGet (((sA.get k).val).getD Orswot.init).entries m a = E2 LA k m a :=
  nested_orswot_witnesses wfx reachA k m a

theorem same_knowledge : ∀ o, o ∈ LA ↔ o ∈ LB :=
  fun _ => (List.perm_append_comm (l₁ := [a2]) (l₂ := [r, a1])).mem_iff

example : (sA.get 10).val.map (fun v => v.read.val) = (sB.get 10).val.map (fun v => v.read.val) :=
  (nested_orswot_reads_converge wfx reachA reachB same_knowledge 10).1

/-- 7 is gone because the key remove had seen its only add; 8 survives because the key remove had not seen its add -/
example : ¬ ∃ v, (sA.get 10).val = some v ∧ 7 ∈ v.read.val :=
  key_remove_wipes_seen wfx reachA 10 7 (c := VClock.ofDot ⟨1, 1⟩) (ks := [10]) (by simp [LA, r]) (by simp) (by
    -- `LA = [a2, r, a1]`: `a2` adds 8, not 7; the remove's context has seen `a1`
    rintro d d' ms (_ | ⟨_, _ | ⟨_, _ | ⟨_, ⟨⟩⟩⟩⟩) hm
    · exact absurd hm (by decide)
    · decide)

def o0 : XOp := .up ⟨0, 1⟩ 0 (.add ⟨0, 1⟩ [0])
def o1 : XOp := .rm (VClock.ofDot ⟨0, 1⟩) [0]
def o5 : XOp := .up ⟨1, 1⟩ 0 (.rm (VClock.ofDot ⟨0, 1⟩) [0])
def Uy : List XOp := [o0, o1, o5]
def tA : CMap Nat (Orswot Nat Nat) Nat := [o0, o1, o5].foldl (CMap.apply xops) CMap.init
def tB : CMap Nat (Orswot Nat Nat) Nat := [o0, o5, o1].foldl (CMap.apply xops) CMap.init

theorem posy : ∀ o ∈ keyLog Uy, ∀ d, addDot o = some d → 0 < d.counter := by decide

theorem wfy : NLogWF Uy :=
  { keys := .of_nodup (by decide) (by decide)
    same_dot := by rintro d k d' ms (_ | ⟨_, _ | ⟨_, _ | ⟨_, ⟨⟩⟩⟩⟩); rfl  -- `o0` is the only nested add of `Uy`
    pos := fun d _ _ h => posy _ (up_mem_keyLog h) d rfl
    dots_unique := dotsUnique_of_nodup (by decide) }

/-- both delivery orders are causal (`o1` and `o5` each only need `o0` first) -/
theorem reach_tA : ReachC Uy tA [o5, o1, o0] := by
  simp only [tA, List.foldl_cons, List.foldl_nil]
  exact ReachC.init
    |>.apply (op := o0) (by simp [Uy]) (predsIn_one posy _) trivial
    |>.apply (op := o1) (by simp [Uy]) trivial (ctx_ofDot _ (by decide))
    |>.apply (op := o5) (by simp [Uy]) (predsIn_one posy _) (ctx_ofDot _ (by decide))

theorem reach_tB : ReachC Uy tB [o1, o5, o0] := by
  simp only [tB, List.foldl_cons, List.foldl_nil]
  exact ReachC.init
    |>.apply (op := o0) (by simp [Uy]) (predsIn_one posy _) trivial
    |>.apply (op := o5) (by simp [Uy]) (predsIn_one posy _) (ctx_ofDot _ (by decide))
    |>.apply (op := o1) (by simp [Uy]) trivial (ctx_ofDot _ (by decide))

/-- **the theorems are about reads on purpose**: in the causal region two replicas with the same knowledge may hold DIFFERENT
nested states (the history of `C05.Example.outside_region_diverges` – outside `ReachUp` by its key remove, inside `ReachC`:
replica A keeps the nested remove parked in the nested `deferred` table of a re-created default set, replica B does not) –
while their nested reads agree, as `nested_orswot_reads_converge` says -/
theorem states_differ_reads_agree :
    (tA.get 0).val ≠ (tB.get 0).val ∧
    (tA.get 0).val.map (fun v => v.read.val) = (tB.get 0).val.map (fun v => v.read.val) ∧
    (tA.get 0).val.map (fun v => v.deferred.size) = some 1 ∧ (tB.get 0).val.map (fun v => v.deferred.size) = some 0 := by
  refine ⟨Example.outside_region_diverges, ?_, by decide +kernel⟩
  exact (nested_orswot_reads_converge wfy reach_tA reach_tB (fun _ => (List.Perm.swap o1 o5 [o0]).mem_iff) 0).1

/-- outside the region (non-causal delivery) the nested reads do NOT follow the specification.  `p5` = actor 1's nested remove
of member 0 under key 0 with context `{0:1}` (it had observed the add `p0`) is delivered BEFORE `p0` – its context is not below
the replica clock, so `CtxOk` fails; it is parked in the nested `deferred` table of the fresh entry.  `p1` = a key remove of
key 0 with context `{1:1}` (it had seen `p5` only) drops the entry, and the parked remove with it.  Then `p0` = the add `⟨0,1⟩` of
member 0 arrives: member 0 is read (witness 1) although the known nested remove covers its only add (`E2 = 0`). -/
theorem causal_premise_needed :
    let p5 : XOp := .up ⟨1, 1⟩ 0 (.rm (VClock.ofDot ⟨0, 1⟩) [0])
    let p1 : XOp := .rm (VClock.ofDot ⟨1, 1⟩) [0]
    let p0 : XOp := .up ⟨0, 1⟩ 0 (.add ⟨0, 1⟩ [0])
    let t := [p5, p1, p0].foldl (CMap.apply xops) CMap.init
    Orswot.entryGet (((t.get 0).val).getD Orswot.init).entries 0 0 = 1 ∧ E2 [p0, p1, p5] 0 0 0 = 0 := by
  decide +kernel

end NestedOrswotExample
end Crdt.C05
