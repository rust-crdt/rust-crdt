import CrdtModel.Props.C04
import CrdtModel.Spec.Lattice
import CrdtModel.Spec.GListSys
/-!
# C09 — duplicates and stale states are absorbed; removed data never resurrects

`duplicate_absorbed` and `stale_state_absorbed` hold of every `RepSys`; the rest of the file instantiates them, so that each
type has the statement in its own terms (`*_stale` is written out for Orswot, GCounter and GList only).
-/
namespace Crdt.C09
open RepSys

section generic
variable {σ ω : Type} {R : RepSys σ ω} {U : List ω}
/-- applying an op the replica has already applied changes nothing (state equality ⇒ nothing observable) -/
theorem duplicate_absorbed (wf : R.WF U) {s : σ} {K : List ω} (h : R.Reach U s K) {op : ω} (hu : op ∈ U) (hk : op ∈ K) :
    R.apply s op = s := dup_noop wf h hu hk
/-- merging a state whose updates are already known (old snapshot, own past, lagging peer) changes nothing -/
theorem stale_state_absorbed (wf : R.WF U) {s s' : σ} {K K' : List ω} (h : R.Reach U s K) (h' : R.Reach U s' K')
    (sub : ∀ o, o ∈ K' → o ∈ K) : R.merge s s' = s := stale_noop wf h h' sub
end generic

section orswot
open OrswotSpec
variable {M A : Type} [LinOrd M] [LinOrd A] {U K K' : List (OrswotOp M A)} {s s' : Orswot M A}

theorem orswot_duplicate (wf : LogWF U) (h : orswotSys.Reach U s K) {op : OrswotOp M A} (hu : op ∈ U) (hk : op ∈ K) :
    s.apply op = s := dup_noop (R := orswotSys) wf h hu hk
theorem orswot_stale (wf : LogWF U) (h : orswotSys.Reach U s K) (h' : orswotSys.Reach U s' K')
    (sub : ∀ o, o ∈ K' → o ∈ K) : s.merge s' = s := stale_noop (R := orswotSys) wf h h' sub

/-- **no resurrection**: in ANY derivable state (so after any further stale ops / old states arrived) an element all of
whose known adds are covered by known removes is absent; only a genuinely new (uncovered) add brings it back -/
theorem no_resurrection (wf : LogWF U) (h : orswotSys.Reach U s K) (m : M)
    (hall : ∀ d ms, OrswotOp.add d ms ∈ K → m ∈ ms → 0 < d.counter →
      ∃ c ms', OrswotOp.rm c ms' ∈ K ∧ m ∈ ms' ∧ d.counter ≤ c.get d.actor) : m ∉ s.read.val :=
  C04.removed_if_all_covered wf h m hall
end orswot

section lattice
variable {α : Type} [LinOrd α]
theorem gcounter_duplicate {U K : List (Dot α)} {s : GCounter α} (h : gcounterSys.Reach U s K) {op : Dot α}
    (hu : op ∈ U) (hk : op ∈ K) : s.apply op = s := dup_noop (R := gcounterSys) trivial h hu hk
theorem gcounter_stale {U K K' : List (Dot α)} {s s' : GCounter α} (h : gcounterSys.Reach U s K)
    (h' : gcounterSys.Reach U s' K') (sub : ∀ o, o ∈ K' → o ∈ K) : s.merge s' = s :=
  stale_noop (R := gcounterSys) trivial h h' sub
theorem pncounter_duplicate {U K : List (PNOp α)} {s : PNCounter α} (h : pncounterSys.Reach U s K) {op : PNOp α}
    (hu : op ∈ U) (hk : op ∈ K) : s.apply op = s := dup_noop (R := pncounterSys) trivial h hu hk
theorem gset_duplicate {U K : List α} {s : GSet α} (h : gsetSys.Reach U s K) {op : α}
    (hu : op ∈ U) (hk : op ∈ K) : s.apply op = s := dup_noop (R := gsetSys) trivial h hu hk
theorem maxreg_duplicate (v0 : α) {U K : List α} {s : MaxReg α} (h : (maxregSys v0).Reach U s K) {op : α}
    (hu : op ∈ U) (hk : op ∈ K) : s.apply op = s := dup_noop (R := maxregSys v0) trivial h hu hk
theorem minreg_duplicate (v0 : α) {U K : List α} {s : MinReg α} (h : (minregSys v0).Reach U s K) {op : α}
    (hu : op ∈ U) (hk : op ∈ K) : s.apply op = s := dup_noop (R := minregSys v0) trivial h hu hk
theorem lwwreg_duplicate {ν : Type} [DecidableEq ν] (r0 : LWWReg ν α) {U K : List (LWWReg ν α)} {s : LWWReg ν α}
    (wf : UniqueMarkers r0 U) (h : (lwwSys r0).Reach U s K) {op : LWWReg ν α} (hu : op ∈ U) (hk : op ∈ K) :
    s.apply op = s := dup_noop (R := lwwSys r0) wf h hu hk
theorem glist_duplicate {τ : Type} [LinOrd τ] {U K : List (GListOp τ)} {s : GList τ} (h : glistSys.Reach U s K)
    {op : GListOp τ} (hu : op ∈ U) (hk : op ∈ K) : s.apply op = s := dup_noop (R := glistSys) trivial h hu hk
theorem glist_stale {τ : Type} [LinOrd τ] {U K K' : List (GListOp τ)} {s s' : GList τ} (h : glistSys.Reach U s K)
    (h' : glistSys.Reach U s' K') (sub : ∀ o, o ∈ K' → o ∈ K) : s.merge s' = s :=
  stale_noop (R := glistSys) trivial h h' sub
end lattice

end Crdt.C09
