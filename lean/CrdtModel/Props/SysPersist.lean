import CrdtModel.Proofs.SysPersist
import CrdtModel.Props.C19
import CrdtModel.Witness.SerdeDeferred
/-!
# C19 at system level: crash / restart / ship-to-peer steps inside the system models

`Spec/SysPersist.lean` extends the three system-level models (`Sys` = Orswot, `SysMap` = Map over any value type, `SysList`)
by persistence steps (`restart`, `ship` / `shipSnap`, `save`, `shipOp`), each taken with whatever the decoder returns and
existing only when serialisation succeeds; `RunP` = the configurations reachable with such steps at ANY point, any number
of times.

For every codec with the round-trip law (proved for the serde model of `Model/Codec.lean`; the `_u64` theorems assume
nothing) every persistence step is the identity or the plain step taken with the original value, so `RunP c ↔ Run c` and
every hypothesis-free `run_*` of `Props/SysOrswot.lean`, `Props/SysMap.lean`, `Props/SysList.lean` holds verbatim for runs
with persistence steps (the `runP_*` below spell some out).

What the round trip does not give is AVAILABILITY, that the step exists: `restart i` is available iff replica `i` holds no
pending remove, at any nesting level (known defect F9: header of `Witness/SerdeDeferred.lean`).  For Orswot that is so at
every moment of the causal sub-system `Sys.RunC` and fails outside it; for `Map<_, Orswot>` it fails even inside the causal
system; for List encoding is total.
-/
namespace Crdt.SysPersist

namespace OrswotP
open Crdt.Sys OrswotSpec
section generic
variable {M A : Type} [LinOrd M] [LinOrd A] {sc : Codec (Orswot M A)} {oc : Codec (OrswotOp M A)} {c c' : Cfg M A}
  {s s' : Orswot M A} {K K' : List (OrswotOp M A)}

/-- **a successful restart leaves the configuration unchanged** -/
theorem restart_is_identity (hs : sc.RoundTrip) (i : A) {j : Json} (he : sc.enc (c.rep i) = .ok j) (hd : sc.dec j = some s') :
    setRep c i s' = c := by rw [hs.restored he hd, setRep_self]

/-- **every persistence step is the identity or the plain step taken with the ORIGINAL value**: what was restored / shipped
behaves identically under every later step -/
theorem stepP_cases (hs : sc.RoundTrip) (ho : oc.RoundTrip) (st : StepP sc oc c c') : c' = c ∨ Step c c' := by
  cases st with
  | base st => exact .inr st
  | restart i j s' he hd => exact .inl (restart_is_identity hs i he hd)
  | ship i k j s' he hd => rewrite [hs.restored he hd]; exact .inr (.merge c i k)
  | save i j s' he hd => rewrite [hs.restored he hd]; exact .inr (.snapshot c i)
  | shipSnap i n p j s' hp he hd => rewrite [hs.restored he hd]; exact .inr (.mergeSnap c i n p hp)
  | shipOp i op j op' hu ok he hd => rewrite [ho.restored he hd]; exact .inr (.deliver c i op hu ok)

/-- **persistence steps at any point of any run add no reachable configuration** (any codecs with the round-trip law) -/
theorem runP_iff_run (hs : sc.RoundTrip) (ho : oc.RoundTrip) : RunP sc oc c ↔ Run c := by
  constructor <;> intro r
  · induction r with
    | init => exact .init
    | step _ st ih => exact (stepP_cases hs ho st).elim (· ▸ ih) (.step ih)
  · induction r with
    | init => exact .init
    | step _ st ih => exact .step ih (.base st)

theorem orswot_runP_iff_run {m : Scalar M} {a : Scalar A} (hm : m.Lawful) (ha : a.Lawful) :
    RunP (orswotCodec m a) (orswotOpCodec m a) c ↔ Run c :=
  runP_iff_run (C19.orswot_roundtrip hm ha) (C19.orswot_op_roundtrip hm ha)

/-- for `Orswot<u64, u64>` with the crate's serde model nothing is assumed -/
theorem orswot_runP_iff_run_u64 {c : Cfg Nat Nat} : RunP C19.orC C19.orOpC c ↔ Run c :=
  orswot_runP_iff_run Scalar.nat_lawful Scalar.nat_lawful

theorem runCP_iff_runC (hs : sc.RoundTrip) (ho : oc.RoundTrip) : RunCP sc oc c ↔ RunC c := by
  constructor <;> intro r
  · induction r with
    | init => exact .init
    | step _ st ih =>
      cases st with
      | base st => exact .step ih st
      | restart i j s' he hd => rewrite [restart_is_identity hs i he hd]; exact ih
      | ship i k j s' he hd => rewrite [hs.restored he hd]; exact .step ih (.merge _ i k)
      | save i j s' he hd => rewrite [hs.restored he hd]; exact .step ih (.snapshot _ i)
      | shipSnap i n p j s' hp he hd => rewrite [hs.restored he hd]; exact .step ih (.mergeSnap _ i n p hp)
      | shipOp i op j op' hu ok hle he hd => rewrite [ho.restored he hd]; exact .step ih (.deliver _ i op hu ok hle)
  · induction r with
    | init => exact .init
    | step _ st ih => exact .step ih (.base st)

theorem runP_converge (hs : sc.RoundTrip) (ho : oc.RoundTrip) (r : RunP sc oc c) (v : c.View s K) (v' : c.View s' K')
    (e : ∀ o, o ∈ K ↔ o ∈ K') : s = s' := run_converge ((runP_iff_run hs ho).mp r) v v' e

theorem runP_member_iff (hs : sc.RoundTrip) (ho : oc.RoundTrip) (r : RunP sc oc c) (v : c.View s K) (m : M) :
    m ∈ s.read.val ↔
      ∃ d ms, OrswotOp.add d ms ∈ K ∧ m ∈ ms ∧
        ∀ cl ms', OrswotOp.rm cl ms' ∈ K → m ∈ ms' → cl.get d.actor < d.counter :=
  run_member_iff' ((runP_iff_run hs ho).mp r) v m

theorem runP_merge_comm (hs : sc.RoundTrip) (ho : oc.RoundTrip) (r : RunP sc oc c) (v : c.View s K) (v' : c.View s' K') :
    s.merge s' = s'.merge s := run_merge_comm ((runP_iff_run hs ho).mp r) v v'

theorem runP_logWF (hs : sc.RoundTrip) (ho : oc.RoundTrip) (r : RunP sc oc c) : LogWF c.log :=
  run_logWF ((runP_iff_run hs ho).mp r)

/-! ### availability -/

/-- availability means that the step exists (and, by `restart_is_identity`, loops) -/
theorem canRestart_iff_step (hs : sc.RoundTrip) (i : A) :
    CanRestart sc c i ↔ ∃ j s', sc.enc (c.rep i) = .ok j ∧ sc.dec j = some s' ∧ StepP sc oc c (setRep c i s') ∧ setRep c i s' = c := by
  constructor
  · rintro ⟨j, s', he, hd⟩; exact ⟨j, s', he, hd, .restart c i j s' he hd, restart_is_identity hs i he hd⟩
  · rintro ⟨j, s', he, hd, _, _⟩; exact ⟨j, s', he, hd⟩

/-- **`restart i` is available iff replica `i` holds no pending remove** – in ANY configuration -/
theorem canRestart_iff {m : Scalar M} {a : Scalar A} (hm : m.Lawful) (ha : a.Lawful) (c : Cfg M A) (i : A) :
    CanRestart (orswotCodec m a) c i ↔ (c.rep i).deferred = ∅ := by
  rewrite [FMap.eq_empty_iff_isEmpty, ← C19.orswot_encode_ok_iff]
  exact Codec.RoundTrip.readable_iff (C19.orswot_roundtrip hm ha)

/-- when it is not, serialisation fails with serde_json's `key must be a string` -/
theorem not_canRestart_error {m : Scalar M} {a : Scalar A} (hm : m.Lawful) (ha : a.Lawful) (c : Cfg M A) (i : A)
    (h : ¬ CanRestart (orswotCodec m a) c i) : (orswotCodec m a).enc (c.rep i) = .error "key must be a string" := by
  cases he : (orswotCodec m a).enc (c.rep i) with
  | ok j => exact absurd ((Codec.RoundTrip.readable_iff (C19.orswot_roundtrip hm ha)).mpr ⟨j, he⟩) h
  | error e => rw [C19.orswot_error_text _ e he]

/-- in a run `restart i` is available iff `i` knows no remove whose context is ahead of the adds `i` knows -/
theorem run_canRestart_iff_no_pending {m : Scalar M} {a : Scalar A} (hm : m.Lawful) (ha : a.Lawful) (r : Run c) (i : A) :
    CanRestart (orswotCodec m a) c i ↔ ∀ cl ms, OrswotOp.rm cl ms ∈ c.know i → ¬ pending (c.know i) cl := by
  refine (Codec.RoundTrip.readable_iff (C19.orswot_roundtrip hm ha)).trans ?_
  rewrite [← Codec.not_fails_iff, Codec.Fails, C19.orswot_reachable_encode_fails_iff (run_logWF r) (run_reach r i)]
  simp only [not_exists, not_and]

/-- **in the causal sub-system `restart` is available at every replica at every moment** -/
theorem runC_restart_available {m : Scalar M} {a : Scalar A} (hm : m.Lawful) (ha : a.Lawful) (r : RunC c) (i : A) :
    CanRestart (orswotCodec m a) c i := (canRestart_iff hm ha c i).mpr (runC_deferred_empty r (.rep i))

/-- … also when the causal run itself contains restarts, shipped states and shipped ops -/
theorem runCP_restart_available {m : Scalar M} {a : Scalar A} (hm : m.Lawful) (ha : a.Lawful)
    (r : RunCP (orswotCodec m a) (orswotOpCodec m a) c) (i : A) : CanRestart (orswotCodec m a) c i :=
  runC_restart_available hm ha ((runCP_iff_runC (C19.orswot_roundtrip hm ha) (C19.orswot_op_roundtrip hm ha)).mp r) i

/-- … and so are `ship`, `save`, `shipSnap`: every state the causal system holds or has saved can be serialised -/
theorem runC_view_encodable {m : Scalar M} {a : Scalar A} (r : RunC c) (v : c.View s K) :
    ∃ j, (orswotCodec m a).enc s = .ok j :=
  (C19.orswot_encode_ok_iff s).mpr ((FMap.eq_empty_iff_isEmpty _).mp (runC_deferred_empty r v))

theorem runC_snap_encodable {m : Scalar M} {a : Scalar A} (r : RunC c) {p : Orswot M A × List (OrswotOp M A)}
    (hp : p ∈ c.snaps) : ∃ j, (orswotCodec m a).enc p.1 = .ok j := runC_view_encodable r (.snap hp)

theorem shipOp_available {m : Scalar M} {a : Scalar A} (hm : m.Lawful) (ha : a.Lawful) (op : OrswotOp M A) :
    ∃ j op', (orswotOpCodec m a).enc op = .ok j ∧ (orswotOpCodec m a).dec j = some op' :=
  (Codec.RoundTrip.readable_iff (C19.orswot_op_roundtrip hm ha)).mpr (C19.orswot_op_encode_total hm ha op)
end generic

/-! ### outside the causal sub-system `restart` is NOT always available

Actors 1 and 2 (`nc0` … `nc3`).  1 adds 7, 1 removes 7 (context read with `contains`), and the REMOVE reaches 2 before the add:
it is parked in 2's `deferred` table, and until the add arrives replica 2 cannot be serialised. -/
def nc0 : Cfg Nat Nat := Cfg.init
def nc1 : Cfg Nat Nat := nc0.gen 1 (Orswot.add 7 ((nc0.rep 1).read.deriveAddCtx 1))
def nc2 : Cfg Nat Nat := nc1.gen 1 (Orswot.rm 7 ((nc1.rep 1).contains 7).deriveRmCtx)
def nc3 : Cfg Nat Nat := nc2.deliver 2 (.rm ((∅ : VClock Nat).apply ⟨1, 1⟩) [7])

theorem nc_run : Run nc3 := by
  have r1 : Run nc1 := .step .init (.add nc0 1 7)
  have r2 : Run nc2 := .step r1 (.rm nc1 1 7)
  exact .step r2 (.deliver nc2 2 _ List.mem_cons_self trivial)

/-- **there is a run and a replica at which `restart` is not available**; the other replica can restart -/
theorem noncausal_restart_unavailable :
    Run nc3 ∧ ¬ CanRestart C19.orC nc3 2 ∧ CanRestart C19.orC nc3 1 ∧
      C19.orC.enc (nc3.rep 2) = .error "key must be a string" := by
  -- `CanRestart` is an `∃ j s'` over JSON, not decidable; `canRestart_iff` turns it into `deferred = ∅` of the concrete
  -- `nc3`, which the kernel evaluates
  have h2 : ¬ CanRestart C19.orC nc3 2 := by
    rewrite [canRestart_iff Scalar.nat_lawful Scalar.nat_lawful]; decide +kernel
  refine ⟨nc_run, h2, ?_, not_canRestart_error Scalar.nat_lawful Scalar.nat_lawful nc3 2 h2⟩
  rewrite [canRestart_iff Scalar.nat_lawful Scalar.nat_lawful]; decide +kernel

/-- … and that run is not a causal one: the delivery violates `CtxLe` -/
example : ¬ CtxLe (nc2.know 2) (.rm ((∅ : VClock Nat).apply ⟨1, 1⟩) [7] : OrswotOp Nat Nat) := by
  intro h; have := h 1; revert this; decide

/-- the state of `Witness/SerdeDeferred.lean` (finding F9), at `Reach` level: derivable and not serialisable -/
theorem f9_not_persistable :
    orswotSys.Reach [Witness.f9Op] Witness.f9State [Witness.f9Op] ∧ ¬ ∃ j, C19.orC.enc Witness.f9State = .ok j := by
  refine ⟨Witness.f9State_reachable, ?_⟩
  rewrite [C19.orswot_encode_ok_iff]; decide

end OrswotP

namespace MapP
open Crdt.SysMap CMap OrswotSpec
section generic
variable {K V VOp A : Type} [LinOrd K] [LinOrd A] {ops : ValOps V VOp A} {Allowed : (V → AddCtx A → VOp) → Prop}
  {sc : Codec (CMap K V A)} {oc : Codec (MapOp K VOp A)} {Q : VOp → Prop} {c c' : Cfg K V VOp A}
  {s s' : CMap K V A} {L L' : List (MapOp K VOp A)}

theorem restart_is_identity (hs : sc.RoundTrip) (i : A) {j : Json} (he : sc.enc (c.rep i) = .ok j) (hd : sc.dec j = some s') :
    setRep c i s' = c := by rw [hs.restored he hd, setRep_self]

theorem stepP_cases (hs : sc.RoundTrip) (ho : oc.RoundTripOn (MapOp.WF Q)) (hQ : ∀ f, Allowed f → ∀ v ctx, Q (f v ctx))
    (r : Run ops Allowed c) (st : StepP ops Allowed sc oc c c') : c' = c ∨ Step ops Allowed c c' := by
  cases st with
  | base st => exact .inr st
  | restart i j s' he hd => exact .inl (restart_is_identity hs i he hd)
  | ship i k j s' he hd => rewrite [hs.restored he hd]; exact .inr (.merge c i k)
  | save i j s' he hd => rewrite [hs.restored he hd]; exact .inr (.snapshot c i)
  | shipSnap i n p j s' hp he hd => rewrite [hs.restored he hd]; exact .inr (.mergeSnap c i n p hp)
  | shipOp i op j op' hu ok he hd =>
    -- the one use of `r`: `oc` round-trips on well-formed ops only, and that the log holds no other is an invariant of runs
    rewrite [ho.restored (logOpsWF_run hQ r op hu) he hd]; exact .inr (.deliver c i op hu ok)

/-- **persistence steps at any point of any run add no reachable configuration**, for any value type and any closures
`Allowed`.  The op codec need only round-trip on what the API builds, `MapOp.WF Q`: key sets are sets, and by `hQ` the
closures produce nested ops satisfying `Q`. -/
theorem runP_iff_run (hs : sc.RoundTrip) (ho : oc.RoundTripOn (MapOp.WF Q)) (hQ : ∀ f, Allowed f → ∀ v ctx, Q (f v ctx)) :
    RunP ops Allowed sc oc c ↔ Run ops Allowed c := by
  constructor <;> intro r
  · induction r with
    | init => exact .init
    | step _ st ih => exact (stepP_cases hs ho hQ ih st).elim (· ▸ ih) (.step ih)
  · induction r with
    | init => exact .init
    | step _ st ih => exact .step ih (.base st)

theorem map_runP_iff_run {k : Scalar K} {a : Scalar A} {vc : Codec V} {voc : Codec VOp} (hk : k.Lawful) (ha : a.Lawful)
    (hv : vc.RoundTrip) (hvo : voc.RoundTripOn Q) (hQ : ∀ f, Allowed f → ∀ v ctx, Q (f v ctx)) :
    RunP ops Allowed (mapCodec k a vc) (mapOpCodec k a voc) c ↔ Run ops Allowed c :=
  runP_iff_run (C19.map_roundtrip hk ha hv) (C19.map_op_roundtrip hk ha hvo) hQ

/-- for `Map<u64, MVReg<u64,u64>, u64>` and every closure nothing is assumed -/
theorem mvmap_runP_iff_run_u64 {c : Cfg Nat (MVReg Nat Nat) (MVOp Nat Nat) Nat} :
    RunP MVReg.valOps (fun _ => True) (mapCodec C19.NS C19.NS C19.mvC) (mapOpCodec C19.NS C19.NS C19.mvOpC) c ↔
      Run MVReg.valOps (fun _ => True) c :=
  map_runP_iff_run (Q := fun _ => True) Scalar.nat_lawful Scalar.nat_lawful
    C19.mvC_roundTrip (C19.mvOpC_roundTrip.on _) (fun _ _ _ _ => trivial)

/-- for `Map<u64, Orswot<u64,u64>, u64>` with the Orswot API closures nothing is assumed -/
theorem nested_runP_iff_run_u64 {c : NCfg Nat Nat Nat} :
    RunP Orswot.valOps NestedGen (mapCodec C19.NS C19.NS C19.orC) (mapOpCodec C19.NS C19.NS C19.orOpC) c ↔ NRun c :=
  map_runP_iff_run (Q := fun _ => True) Scalar.nat_lawful Scalar.nat_lawful
    C19.orswot_roundtrip_u64 (C19.orOpC_roundTrip.on _) (fun _ _ _ _ => trivial)

theorem runP_key_present_iff (hs : sc.RoundTrip) (ho : oc.RoundTripOn (MapOp.WF Q))
    (hQ : ∀ f, Allowed f → ∀ v ctx, Q (f v ctx)) (r : RunP ops Allowed sc oc c) (v : c.View s L) (k : K) :
    (s.get k).val.isSome = true ↔
      ∃ d o, MapOp.up d k o ∈ L ∧ ∀ cl ks, MapOp.rm cl ks ∈ L → k ∈ ks → cl.get d.actor < d.counter :=
  run_key_present_iff' ((runP_iff_run hs ho hQ).mp r) v k

theorem runP_keys_converge (hs : sc.RoundTrip) (ho : oc.RoundTripOn (MapOp.WF Q))
    (hQ : ∀ f, Allowed f → ∀ v ctx, Q (f v ctx)) (r : RunP ops Allowed sc oc c) (v : c.View s L) (v' : c.View s' L')
    (e : ∀ o, o ∈ L ↔ o ∈ L') :
    s.clock = s'.clock ∧ s.deferred = s'.deferred ∧
      ∀ k, (s.get k).val.isSome = (s'.get k).val.isSome ∧ (s.get k).rmClock = (s'.get k).rmClock :=
  run_keys_converge ((runP_iff_run hs ho hQ).mp r) v v' e

theorem runP_logWF (hs : sc.RoundTrip) (ho : oc.RoundTripOn (MapOp.WF Q)) (hQ : ∀ f, Allowed f → ∀ v ctx, Q (f v ctx))
    (r : RunP ops Allowed sc oc c) : LogWF (keyLog c.log) := run_logWF ((runP_iff_run hs ho hQ).mp r)

end generic

/-! ### availability -/

section availability
variable {K V VOp A : Type} [LinOrd K] [LinOrd A]

/-- for a `Map` at any nesting level `restart i` is available iff the key-level `deferred` table of `i` is empty and no value
of `i` fails to encode (`HD` as in `C19.map_encode_fails_iff`) -/
theorem canRestart_iff {k : Scalar K} {a : Scalar A} {vc : Codec V} {HD : V → Prop} (hk : k.Lawful) (ha : a.Lawful)
    (hv : vc.RoundTrip) (hHD : ∀ x, (∃ e, vc.enc x = .error e) ↔ HD x) (c : Cfg K V VOp A) (i : A) :
    CanRestart (mapCodec k a vc) c i ↔
      ((c.rep i).deferred = ∅ ∧ ∀ key en, (c.rep i).entries.get? key = some en → ¬ HD en.val) := by
  refine (Codec.RoundTrip.readable_iff (C19.map_roundtrip hk ha hv)).trans ?_
  rewrite [← Codec.not_fails_iff, Codec.Fails, C19.map_encode_fails_iff hHD, not_or, Bool.not_eq_false, ← FMap.eq_empty_iff_isEmpty]
  simp only [not_exists, not_and]

/-- for `Map<u64, MVReg, u64>` `restart i` is available iff `i` holds no pending key remove -/
theorem mvmap_canRestart_iff (c : Cfg Nat (MVReg Nat Nat) (MVOp Nat Nat) Nat) (i : Nat) :
    CanRestart (mapCodec C19.NS C19.NS C19.mvC) c i ↔ (c.rep i).deferred = ∅ := by
  refine (Codec.RoundTrip.readable_iff C19.map_mvreg_roundtrip).trans ?_
  rw [← Codec.not_fails_iff, Codec.Fails, C19.map_mvreg_encode_fails_iff, Bool.not_eq_false, FMap.eq_empty_iff_isEmpty]

theorem nested_canRestart_iff {M : Type} [LinOrd M] {k : Scalar K} {a : Scalar A} {m : Scalar M} (hk : k.Lawful)
    (ha : a.Lawful) (hm : m.Lawful) (c : NCfg K M A) (i : A) :
    CanRestart (mapCodec k a (orswotCodec m a)) c i ↔
      ((c.rep i).deferred = ∅ ∧ ∀ key en, (c.rep i).entries.get? key = some en → en.val.deferred = ∅) := by
  rewrite [canRestart_iff (HD := fun x : Orswot M A => x.deferred.isEmpty = false) hk ha (C19.orswot_roundtrip hm ha)
    (fun x => C19.orswot_encode_fails_iff x)]
  simp only [Bool.not_eq_false, FMap.eq_empty_iff_isEmpty]

/-- in the causal op-only system of `Map<K, Orswot<M,A>, A>` no key remove is ever parked, so `restart i` is available
iff no NESTED set of `i` holds a pending remove (such residue can exist inside the causal region: header of
`Props/C05NestedOrswot.lean`) -/
theorem runC_nested_canRestart_iff {M : Type} [LinOrd M] {k : Scalar K} {a : Scalar A} {m : Scalar M} (hk : k.Lawful)
    (ha : a.Lawful) (hm : m.Lawful) {c : NCfg K M A} (r : RunC c) (i : A) :
    CanRestart (mapCodec k a (orswotCodec m a)) c i ↔
      ∀ key en, (c.rep i).entries.get? key = some en → en.val.deferred = ∅ :=
  (nested_canRestart_iff hk ha hm c i).trans (and_iff_right (runC_map_deferred_empty r i))
end availability

/-! ### inside the causal system of the nested map `restart` is NOT always available

Actors 0 and 1, `Map<u64, Orswot<u64,u64>, u64>` (`nm0` … `nm5`).  0 adds member 0 under key 0 (`o0`); 1 receives it and
removes member 0 under key 0 (`o5`, a nested remove with context `{0:1}`); 0 removes key 0 (`o1`); then `o5` is delivered to
0 – causally (0 has applied everything the context names).  The key is gone at 0, so `o5` re-creates a default set whose
clock is empty, and the nested remove is parked in ITS `deferred` table: replica 0 cannot be serialised. -/
open C05.NestedOrswotExample (o0 o1 o5 ctx_ofDot)
def nm0 : NCfg Nat Nat Nat := Cfg.init
def nm1 : NCfg Nat Nat Nat :=
  nm0.gen SysMap.xops 0 (CMap.update SysMap.xops (nm0.rep 0) 0 ((nm0.rep 0).readCtx.deriveAddCtx 0) (fun _ ctx => Orswot.add 0 ctx))
def nm2 : NCfg Nat Nat Nat := nm1.deliver SysMap.xops 1 o0
def nm3 : NCfg Nat Nat Nat :=
  nm2.gen SysMap.xops 1 (CMap.update SysMap.xops (nm2.rep 1) 0 ((nm2.rep 1).readCtx.deriveAddCtx 1)
    (fun v _ => Orswot.rm 0 (v.contains 0).deriveRmCtx))
def nm4 : NCfg Nat Nat Nat := nm3.gen SysMap.xops 0 (CMap.rm 0 ((nm3.rep 0).get 0).deriveRmCtx)
def nm5 : NCfg Nat Nat Nat := nm4.deliver SysMap.xops 0 o5

theorem nm_runC : RunC nm5 := by
  -- both delivered dots have counter 1: no predecessor to have been seen, whatever `L`
  have first_ok {c : NCfg Nat Nat Nat} (r : RunC c) (a : Nat) {L : List (OrswotOp Nat Nat)} : PredsIn (keyLog c.log) L ⟨a, 1⟩ :=
    predsIn_one (List.forall_mem_map.mpr (sysInv_run (runC_run r)).dots.pos) a
  have r1 : RunC nm1 := .step .init (.update nm0 0 0 _ (.add 0))
  have r2 : RunC nm2 := .step r1 (.deliver nm1 1 o0 List.mem_cons_self (first_ok r1 0) trivial)
  have r3 : RunC nm3 := .step r2 (.update nm2 1 0 _ (.rm 0))
  have r4 : RunC nm4 := .step r3 (.rmKey nm3 0 0)
  -- the log is `[o1, o5, o0]`; replica 0 knows `[o1, o0]`, which covers the context `{0:1}` of `o5`
  exact .step r4 (.deliver nm4 0 o5 (List.mem_cons_of_mem _ List.mem_cons_self) (first_ok r4 1)
    (ctx_ofDot (K' := keyLog (nm4.know 0)) ⟨0, 1⟩ (by decide)))

/-- **a causal run of the nested map and a replica at which `restart` is not available** (the key-level table is empty, a
nested one is not): Orswot's `runC_restart_available` has no counterpart for `Map<_, Orswot>` -/
theorem nested_causal_restart_unavailable :
    RunC nm5 ∧ ¬ CanRestart (mapCodec C19.NS C19.NS C19.orC) nm5 0 ∧ (nm5.rep 0).deferred = ∅ ∧
      CanRestart (mapCodec C19.NS C19.NS C19.orC) nm5 1 := by
  have h0 : ¬ ∀ p ∈ (nm5.rep 0).entries.l, p.2.val.deferred.isEmpty = true := by decide +kernel
  have h1 : ∀ p ∈ (nm5.rep 1).entries.l, p.2.val.deferred.isEmpty = true := by decide +kernel
  have av := runC_nested_canRestart_iff Scalar.nat_lawful Scalar.nat_lawful Scalar.nat_lawful nm_runC
  refine ⟨nm_runC, fun h => h0 fun p hp => ?_, runC_map_deferred_empty nm_runC 0, (av 1).mpr fun key en hg => ?_⟩
  -- `av` speaks of `entries.get?` and `= ∅`, the evaluated `h0` / `h1` of the entry list and `isEmpty`
  · exact (FMap.eq_empty_iff_isEmpty _).mp ((av 0).mp h p.1 p.2 (FMap.mem_l_iff.mp hp))
  · exact (FMap.eq_empty_iff_isEmpty _).mpr (h1 (key, en) (FMap.mem_l_iff.mpr hg))

end MapP

namespace ListP
open Crdt.SysList ListSpec
section generic
variable {τ A : Type} [LinOrd A] {sc : Codec (ListCrdt τ A)} {oc : Codec (ListOp τ A)} {c c' : Cfg τ A} {s' : ListCrdt τ A}

theorem restart_is_identity (hs : sc.RoundTrip) (i : A) {j : Json} (he : sc.enc (c.rep i) = .ok j) (hd : sc.dec j = some s') :
    setRep c i s' = c := by rw [hs.restored he hd, setRep_self]

theorem stepP_cases (hs : sc.RoundTrip) (ho : oc.RoundTrip) (st : StepP sc oc c c') : c' = c ∨ Step c c' := by
  cases st with
  | base st => exact .inr st
  | restart i j s' he hd => exact .inl (restart_is_identity hs i he hd)
  | shipOp i op j op' hu ok he hd => rewrite [ho.restored he hd]; exact .inr (.deliver c i op hu ok)

theorem runP_iff_run (hs : sc.RoundTrip) (ho : oc.RoundTrip) : RunP sc oc c ↔ Run c := by
  constructor <;> intro r
  · induction r with
    | init => exact .init
    | step _ st ih => exact (stepP_cases hs ho st).elim (· ▸ ih) (.step ih)
  · induction r with
    | init => exact .init
    | step _ st ih => exact .step ih (.base st)

theorem list_runP_iff_run {a : Scalar A} {v : Codec τ} (ha : a.Lawful) (hv : v.RoundTrip) :
    RunP (listCodec a v) (listOpCodec a v) c ↔ Run c :=
  runP_iff_run (C19.list_roundtrip ha hv) (C19.list_op_roundtrip ha hv)

/-- for `List<u64, u64>` nothing is assumed -/
theorem list_runP_iff_run_u64 {c : SysList.Cfg Nat Nat} :
    RunP (listCodec C19.NS Codec.nat) (listOpCodec C19.NS Codec.nat) c ↔ Run c :=
  list_runP_iff_run Scalar.nat_lawful Codec.nat_roundTrip

/-- C12 convergence for runs with restarts and shipped ops -/
theorem runP_same_ops_same_sequence (hs : sc.RoundTrip) (ho : oc.RoundTrip) (r : RunP sc oc c) (i j : A)
    (e : ∀ o, o ∈ c.know i ↔ o ∈ c.know j) :
    c.rep i = c.rep j ∧ (c.rep i).read = (c.rep j).read ∧ (c.rep i).iterEntries = (c.rep j).iterEntries :=
  run_same_ops_same_sequence ((runP_iff_run hs ho).mp r) i j e

theorem runP_state_eq_spec (hs : sc.RoundTrip) (ho : oc.RoundTrip) (r : RunP sc oc c) (i : A) :
    c.rep i = specState (c.know i) := run_state_eq_spec ((runP_iff_run hs ho).mp r) i

theorem runP_logWF (hs : sc.RoundTrip) (ho : oc.RoundTrip) (r : RunP sc oc c) : LogWF c.log :=
  run_logWF ((runP_iff_run hs ho).mp r)

/-- **`restart` is available at every replica of every configuration**, since encoding a `List` is total -/
theorem list_restart_available {a : Scalar A} {v : Codec τ} (ha : a.Lawful) (hv : v.RoundTrip) (hvt : v.Total) (c : Cfg τ A)
    (i : A) : CanRestart (listCodec a v) c i :=
  (Codec.RoundTrip.readable_iff (C19.list_roundtrip ha hv)).mpr (C19.list_encode_total ha hvt (c.rep i))

/-- the headline form: every replica of every run with persistence steps -/
theorem runP_restart_available {a : Scalar A} {v : Codec τ} (ha : a.Lawful) (hv : v.RoundTrip) (hvt : v.Total)
    (_r : RunP (listCodec a v) (listOpCodec a v) c) (i : A) :
    ∃ j s', (listCodec a v).enc (c.rep i) = .ok j ∧ (listCodec a v).dec j = some s' ∧
      RunP (listCodec a v) (listOpCodec a v) (setRep c i s') ∧ setRep c i s' = c := by
  obtain ⟨j, s', he, hd⟩ := list_restart_available ha hv hvt c i
  exact ⟨j, s', he, hd, .step _r (.restart c i j s' he hd), restart_is_identity (C19.list_roundtrip ha hv) i he hd⟩

/-- every op can be shipped -/
theorem shipOp_available {a : Scalar A} {v : Codec τ} (ha : a.Lawful) (hv : v.RoundTrip) (hvt : v.Total) (op : ListOp τ A) :
    ∃ j op', (listOpCodec a v).enc op = .ok j ∧ (listOpCodec a v).dec j = some op' :=
  (Codec.RoundTrip.readable_iff (C19.list_op_roundtrip ha hv)).mpr (C19.list_op_encode_total ha hvt op)
end generic

/-- non-vacuity: the concrete 10-step run `SysList.ex10` continued by a restart of replica 2 (available, and the identity) -/
example : ∃ j s', (listCodec C19.NS Codec.nat).enc (SysList.ex10.rep 2) = .ok j ∧ (listCodec C19.NS Codec.nat).dec j = some s' ∧
    RunP (listCodec C19.NS Codec.nat) (listOpCodec C19.NS Codec.nat) (setRep SysList.ex10 2 s') ∧
    setRep SysList.ex10 2 s' = SysList.ex10 :=
  runP_restart_available Scalar.nat_lawful Codec.nat_roundTrip Codec.nat_total
    (list_runP_iff_run_u64.mpr SysList.ex_run) 2

end ListP

/-! ## non-vacuity

Actors 1 and 2, `Orswot<u64,u64>` with the serde model of the crate.  1 adds 7; **1 crashes and restarts from its JSON**;
the add is **shipped as JSON** to 2; CONCURRENTLY 2 removes 7 and the restarted 1 adds 7 again; finally 2's state is
**shipped as JSON** to 1 and merged.  Add wins, exactly as in the run without persistence (`Sys.ex5`). -/
namespace OrswotP
open Crdt.Sys
abbrev addOp : OrswotOp Nat Nat := .add ⟨1, 1⟩ [7]

def exP1 : Cfg Nat Nat := Cfg.init.gen 1 (Orswot.add 7 (((Cfg.init : Cfg Nat Nat).rep 1).read.deriveAddCtx 1))
def exP2 (s' : Orswot Nat Nat) : Cfg Nat Nat := setRep exP1 1 s'
def exP3 (s' : Orswot Nat Nat) (op' : OrswotOp Nat Nat) : Cfg Nat Nat := (exP2 s').deliver 2 op'

/-- the configuration those steps lead to (the decoder returned the originals) -/
def exQ3 : Cfg Nat Nat := exP3 (exP1.rep 1) addOp
def exQ4 : Cfg Nat Nat := exQ3.gen 2 (Orswot.rm 7 ((exQ3.rep 2).contains 7).deriveRmCtx)
def exQ5 : Cfg Nat Nat := exQ4.gen 1 (Orswot.add 7 ((exQ4.rep 1).read.deriveAddCtx 1))
/-- after 2's state has been shipped to 1 (`s'` = what the decoder returned) -/
def exQ6 (s' : Orswot Nat Nat) : Cfg Nat Nat := exQ5.mergeIn 1 s' (exQ5.know 2)
def exQ6' : Cfg Nat Nat := exQ6 (exQ5.rep 2)

/-- **a run with a restart in the middle, a shipped op and a shipped state** -/
theorem exP_runP : RunP C19.orC C19.orOpC exQ6' := by
  have hs : C19.orC.RoundTrip := C19.orswot_roundtrip_u64
  have ho := C19.orOpC_roundTrip
  have r1 : RunP C19.orC C19.orOpC exP1 := .step .init (.base (.add Cfg.init 1 7))
  -- whatever the decoder returns is, by the round-trip law, the original
  obtain ⟨j, s', he, hd⟩ := (canRestart_iff Scalar.nat_lawful Scalar.nat_lawful exP1 1).mpr (by decide)
  obtain rfl := hs.restored he hd
  have r2 : RunP C19.orC C19.orOpC (exP2 (exP1.rep 1)) := .step r1 (.restart exP1 1 j _ he hd)
  obtain ⟨jo, op', heo, hdo⟩ := shipOp_available Scalar.nat_lawful Scalar.nat_lawful addOp
  obtain rfl := ho.restored heo hdo
  -- delivery of `addOp` at 2 waits for no earlier add of actor 1, its dot having counter 1 (`predsIn_one`)
  have r3 : RunP C19.orC C19.orOpC exQ3 :=
    .step r2 (.shipOp _ 2 addOp jo _ (by decide)
      (OrswotSpec.predsIn_one (sysInv_run ((runP_iff_run hs ho).mp r2)).dots.pos 1) heo hdo)
  have r4 : RunP C19.orC C19.orOpC exQ4 := .step r3 (.base (.rm exQ3 2 7))
  have r5 : RunP C19.orC C19.orOpC exQ5 := .step r4 (.base (.add exQ4 1 7))
  obtain ⟨j, s', he, hd⟩ := (canRestart_iff Scalar.nat_lawful Scalar.nat_lawful exQ5 2).mpr (by decide)
  obtain rfl := hs.restored he hd
  exact .step r5 (.ship exQ5 1 2 j _ he hd)

/-- the reads at the end: add wins at 1 (witnessed by the second dot), 2 reads nothing; the restart changed nothing -/
example : (exQ6'.rep 1).read.val = [7] ∧ (exQ6'.rep 2).read.val = [] ∧ ((exQ6'.rep 1).contains 7).rmClock.get 1 = 2 := by
  decide +kernel
example : (exQ3.rep 1).read.val = [7] ∧ (exQ3.rep 2).read.val = [7] := by decide +kernel
/-- it IS the run without persistence -/
example : exQ6'.log = Sys.ex5.log ∧ (exQ6'.rep 1) = Sys.ex5.rep 1 ∧ (exQ6'.rep 2) = Sys.ex5.rep 2 := by decide +kernel
/-- the hypothesis-free theorems apply to it -/
example : Run exQ6' := orswot_runP_iff_run_u64.mp exP_runP
example : (exQ6'.rep 1).merge (exQ6'.rep 2) = (exQ6'.rep 2).merge (exQ6'.rep 1) :=
  runP_merge_comm C19.orswot_roundtrip_u64 C19.orOpC_roundTrip exP_runP (.rep 1) (.rep 2)
end OrswotP

end Crdt.SysPersist
