import CrdtModel.Proofs.MapValidate
import CrdtModel.Props.C17
import CrdtModel.Spec.MapKeys
import CrdtModel.Model.MapInst
/-!
# C17 for `Map` — `Map::validate_merge` (src/map.rs:212-235)

For EVERY value type: the exact verdict for ALL pairs of states; its dot clause is exactly `Orswot::validate_merge` on the Orswot
of keys, so every Orswot C17 theorem transfers.  Correct use is accepted: Map updates name ONE key per dot, so – unlike
`Orswot::add_all` – the dot clause never fires between derivable states; with a value type whose own `validate_merge` never
fails (MVReg) every pair of derivable Map states is accepted, in both directions.
-/
namespace Crdt.C17
open CMap

section map
variable {K V VOp A : Type} [LinOrd K] [LinOrd A] (ops : ValOps V VOp A)

/-- **Exact verdict of `Map::validate_merge`, all states, every value type**: accepted iff (1) no entry of `self` stores a dot
`(x, n)` for which an entry of `other` under a DIFFERENT key has counter `n` for `x`, and (2) every key held by both sides with
concurrent entry clocks has nested values that validate. -/
theorem map_ok_iff (s o : CMap K V A) :
    CMap.validateMerge ops s o = .ok () ↔
      (¬ ∃ k en k' en' x n, s.entries.get? k = some en ∧ o.entries.get? k' = some en' ∧ en.clock.dots.get? x = some n ∧
          k' ≠ k ∧ en'.clock.get x = n) ∧
      (¬ ∃ k en en', s.entries.get? k = some en ∧ o.entries.get? k = some en' ∧ en.clock.concurrent en'.clock = true ∧
          ops.validateMerge en.val en'.val = false) := CMap.validateMerge_ok_iff ops s o

/-- the negation, the two clauses by name (`DotHit`, `NestedHit`: Proofs/MapValidate.lean) -/
theorem map_error_iff (s o : CMap K V A) :
    (∃ e, CMap.validateMerge ops s o = .error e) ↔ CMap.DotHit s o ∨ CMap.NestedHit ops s o := by
  rw [Except.exists_error_iff, CMap.validateMerge_ok_iff, Classical.not_and_iff_not_or_not, Classical.not_not, Classical.not_not]

/-- the dot clause is `Orswot::validate_merge` on the keys -/
theorem map_dot_check_is_orswot (s o : CMap K V A) :
    ¬ CMap.DotHit s o ↔ s.keysView.validateMerge o.keysView = .ok () := by
  rw [Orswot.validateMerge_ok_iff, CMap.dotHit_iff_keys]

/-- … in terms of live witnesses: no two different keys share a live dot across the two maps -/
theorem map_dot_check_shared {s : CMap K V A} (ws : Orswot.EntriesWF s.keysView.entries) (o : CMap K V A) :
    ¬ CMap.DotHit s o ↔
      ¬ ∃ k k' x, k ≠ k' ∧ Orswot.entryGet s.keysView.entries k x ≠ 0 ∧
        Orswot.entryGet o.keysView.entries k' x = Orswot.entryGet s.keysView.entries k x := by
  rewrite [map_dot_check_is_orswot]; exact orswot_ok_iff_shared ws o.keysView

/-- … symmetric on well-formed states -/
theorem map_dot_check_symmetric {s o : CMap K V A} (ws : Orswot.EntriesWF s.keysView.entries)
    (wo : Orswot.EntriesWF o.keysView.entries) : CMap.DotHit s o ↔ CMap.DotHit o s := by
  simp only [CMap.dotHit_iff_keys]
  exact Orswot.hit_symm ws wo

/-- **misuse is flagged**: one dot the live witness of key `k` here and of a different key `k'` there ⇒ the merge is
rejected, whatever else the maps contain -/
theorem map_misuse_flagged (s o : CMap K V A) {k k' : K} {x : A} (hne : k ≠ k')
    (hz : Orswot.entryGet s.keysView.entries k x ≠ 0)
    (he : Orswot.entryGet o.keysView.entries k' x = Orswot.entryGet s.keysView.entries k x) :
    ∃ e, CMap.validateMerge ops s o = .error e :=
  (map_error_iff ops s o).mpr (Or.inl ((CMap.dotHit_iff_keys s o).mpr (Orswot.hit_of_sharedDot ⟨k, k', x, hne, hz, he⟩)))

variable {ops}
open OrswotSpec

/-- the key-level reading of a Map log names one key per dot: the premise `SingleAdds` of the Orswot theorems (Props/C17.lean), which
there excludes `add_all` with several members (defect F8), holds of every Map log -/
theorem keyLog_single (U : List (MapOp K VOp A)) : SingleAdds (keyLog U) := by
  intro d ms h
  obtain ⟨k, o, rfl, _⟩ := mem_keyLog_add.mp h
  exact Nat.le_refl 1

/-- **correct use never trips the dot clause**: any two derivable Map states of one history (live replicas, snapshots,
stale copies; updates of each actor in issue order, key removes unordered, duplicates, merges) -/
theorem map_no_double_spent_reachable {U L L' : List (MapOp K VOp A)} {s o : CMap K V A} (wf : LogWF (keyLog U))
    (hs : CMap.Reach ops U s L) (ho : CMap.Reach ops U o L') : ¬ CMap.DotHit s o := by
  have ra := CMap.keys_rep wf hs
  have rb := CMap.keys_rep wf ho
  rewrite [map_dot_check_is_orswot]
  exact orswot_ok_rep wf (keyLog_single U) ra.1 ra.2 rb.1 rb.2

/-- hence between derivable states the verdict is decided by the nested values alone -/
theorem map_ok_reachable_iff {U L L' : List (MapOp K VOp A)} {s o : CMap K V A} (wf : LogWF (keyLog U))
    (hs : CMap.Reach ops U s L) (ho : CMap.Reach ops U o L') :
    CMap.validateMerge ops s o = .ok () ↔ ¬ CMap.NestedHit ops s o := by
  rewrite [CMap.validateMerge_ok_iff]
  exact ⟨fun h => h.2, fun h => ⟨map_no_double_spent_reachable wf hs ho, h⟩⟩

/-- a value type whose `validate_merge` never fails ⇒ every pair of derivable maps is accepted -/
theorem map_ok_reachable_of_total (htot : ∀ v v', ops.validateMerge v v' = true)
    {U L L' : List (MapOp K VOp A)} {s o : CMap K V A} (wf : LogWF (keyLog U))
    (hs : CMap.Reach ops U s L) (ho : CMap.Reach ops U o L') : CMap.validateMerge ops s o = .ok () := by
  rewrite [map_ok_reachable_iff wf hs ho]
  rintro ⟨k, en, en', _, _, _, hv⟩
  rewrite [htot] at hv; cases hv

end map

/-- **`Map<K, MVReg>`: correct use is accepted, in both directions** -/
theorem map_mvreg_ok_reachable {K ν A : Type} [LinOrd K] [LinOrd A] [DecidableEq ν]
    {U L L' : List (MapOp K (MVOp ν A) A)} {s o : CMap K (MVReg ν A) A} (wf : OrswotSpec.LogWF (keyLog U))
    (hs : CMap.Reach MVReg.valOps U s L) (ho : CMap.Reach MVReg.valOps U o L') :
    CMap.validateMerge MVReg.valOps s o = .ok () ∧ CMap.validateMerge MVReg.valOps o s = .ok () :=
  ⟨map_ok_reachable_of_total (fun _ _ => rfl) wf hs ho, map_ok_reachable_of_total (fun _ _ => rfl) wf ho hs⟩

/-! ## non-vacuity / misuse example: actor 0 used at two replicas for keys 5 and 6 -/
def mA : CMap Nat (MVReg Nat Nat) Nat := CMap.apply MVReg.valOps CMap.init (.up ⟨0, 1⟩ 5 ⟨(∅ : VClock Nat).apply ⟨0, 1⟩, 1⟩)
def mB : CMap Nat (MVReg Nat Nat) Nat := CMap.apply MVReg.valOps CMap.init (.up ⟨0, 1⟩ 6 ⟨(∅ : VClock Nat).apply ⟨0, 1⟩, 2⟩)
def mC : CMap Nat (MVReg Nat Nat) Nat := CMap.apply MVReg.valOps CMap.init (.up ⟨1, 1⟩ 6 ⟨(∅ : VClock Nat).apply ⟨1, 1⟩, 2⟩)
example : (match CMap.validateMerge MVReg.valOps mA mB with | .error .doubleSpentDot => true | _ => false) = true := by decide +kernel
example : (match CMap.validateMerge MVReg.valOps mB mA with | .error .doubleSpentDot => true | _ => false) = true := by decide +kernel
example : (match CMap.validateMerge MVReg.valOps mA mC with | .ok _ => true | _ => false) = true := by decide +kernel

end Crdt.C17
