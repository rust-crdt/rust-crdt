import CrdtModel.Spec.OrswotSys
import CrdtModel.Spec.Lattice
import CrdtModel.Spec.GListSys
/-!
# C03 — state merge and op delivery are interchangeable (hybrid replication)

`Reach` mixes op deliveries and merges freely in one derivation, and `reach_rep` says every derivable state is *the*
state determined by its knowledge set – however each update arrived.
-/
namespace Crdt.C03
open RepSys

section generic
variable {σ ω : Type} {R : RepSys σ ω} {U : List ω}
/-- reads depend only on the set of updates learned, not on how they arrived -/
theorem knowledge_determines_state (wf : R.WF U) {s s' : σ} {K K' : List ω} (h : R.Reach U s K) (h' : R.Reach U s' K')
    (e : ∀ o, o ∈ K ↔ o ∈ K') : s = s' := converge wf h h' e
/-- merge(state(M1), state(M2)) = state(M1 ∪ M2) -/
theorem merge_union (wf : R.WF U) {s s' t : σ} {K K' L : List ω} (h : R.Reach U s K) (h' : R.Reach U s' K')
    (ht : R.Reach U t L) (e : ∀ o, o ∈ L ↔ (o ∈ K ∨ o ∈ K')) : R.merge s s' = t := merge_is_union wf h h' ht e
/-- the merged state itself represents the union -/
theorem merge_rep (wf : R.WF U) {s s' : σ} {K K' : List ω} (h : R.Reach U s K) (h' : R.Reach U s' K') :
    R.Rep U (K ++ K') (R.merge s s') := (reach_rep wf (Reach.merge h h')).2
end generic

section orswot
variable {M A : Type} [LinOrd M] [LinOrd A] {U K K' L : List (OrswotOp M A)} {s s' t : Orswot M A}
theorem orswot (wf : OrswotSpec.LogWF U) (h : orswotSys.Reach U s K) (h' : orswotSys.Reach U s' K')
    (ht : orswotSys.Reach U t L) (e : ∀ o, o ∈ L ↔ (o ∈ K ∨ o ∈ K')) : s.merge s' = t :=
  merge_is_union (R := orswotSys) wf h h' ht e
/-- a replica that receives the *ops* the other side knows (in any admissible order) ends where merging ends -/
theorem orswot_ops_vs_merge (wf : OrswotSpec.LogWF U) (h : orswotSys.Reach U s K) (h' : orswotSys.Reach U s' K')
    (ht : orswotSys.Reach U t L) (e : ∀ o, o ∈ L ↔ (o ∈ K ∨ o ∈ K')) : (s.merge s').read.val = t.read.val := by
  rw [orswot wf h h' ht e]
end orswot

section lattice
variable {α : Type} [LinOrd α]
theorem gcounter {U K K' L : List (Dot α)} {s s' t : GCounter α} (h : gcounterSys.Reach U s K)
    (h' : gcounterSys.Reach U s' K') (ht : gcounterSys.Reach U t L) (e : ∀ o, o ∈ L ↔ (o ∈ K ∨ o ∈ K')) :
    s.merge s' = t := merge_is_union (R := gcounterSys) trivial h h' ht e
theorem pncounter {U K K' L : List (PNOp α)} {s s' t : PNCounter α} (h : pncounterSys.Reach U s K)
    (h' : pncounterSys.Reach U s' K') (ht : pncounterSys.Reach U t L) (e : ∀ o, o ∈ L ↔ (o ∈ K ∨ o ∈ K')) :
    s.merge s' = t := merge_is_union (R := pncounterSys) trivial h h' ht e
theorem gset {U K K' L : List α} {s s' t : GSet α} (h : gsetSys.Reach U s K) (h' : gsetSys.Reach U s' K')
    (ht : gsetSys.Reach U t L) (e : ∀ o, o ∈ L ↔ (o ∈ K ∨ o ∈ K')) : s.merge s' = t :=
  merge_is_union (R := gsetSys) trivial h h' ht e
theorem maxreg (v0 : α) {U K K' L : List α} {s s' t : MaxReg α} (h : (maxregSys v0).Reach U s K)
    (h' : (maxregSys v0).Reach U s' K') (ht : (maxregSys v0).Reach U t L) (e : ∀ o, o ∈ L ↔ (o ∈ K ∨ o ∈ K')) :
    s.merge s' = t := merge_is_union (R := maxregSys v0) trivial h h' ht e
theorem minreg (v0 : α) {U K K' L : List α} {s s' t : MinReg α} (h : (minregSys v0).Reach U s K)
    (h' : (minregSys v0).Reach U s' K') (ht : (minregSys v0).Reach U t L) (e : ∀ o, o ∈ L ↔ (o ∈ K ∨ o ∈ K')) :
    s.merge s' = t := merge_is_union (R := minregSys v0) trivial h h' ht e
theorem lwwreg {ν : Type} [DecidableEq ν] (r0 : LWWReg ν α) {U K K' L : List (LWWReg ν α)} {s s' t : LWWReg ν α}
    (wf : UniqueMarkers r0 U) (h : (lwwSys r0).Reach U s K) (h' : (lwwSys r0).Reach U s' K')
    (ht : (lwwSys r0).Reach U t L) (e : ∀ o, o ∈ L ↔ (o ∈ K ∨ o ∈ K')) : s.merge s' = t :=
  merge_is_union (R := lwwSys r0) wf h h' ht e
theorem glist {τ : Type} [LinOrd τ] {U K K' L : List (GListOp τ)} {s s' t : GList τ} (h : glistSys.Reach U s K)
    (h' : glistSys.Reach U s' K') (ht : glistSys.Reach U t L) (e : ∀ o, o ∈ L ↔ (o ∈ K ∨ o ∈ K')) : s.merge s' = t :=
  merge_is_union (R := glistSys) trivial h h' ht e
end lattice

end Crdt.C03
