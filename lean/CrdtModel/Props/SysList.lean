import CrdtModel.Proofs.SysList
import CrdtModel.Props.C13
/-!
# List theorems for every execution of the system – NO well-formedness hypothesis

`Run c` : `c` is a configuration of a system in which every op was produced by the API (`insert_index`, `append`,
`delete_index`) from the issuing replica's current state with the replica's own actor id and applied there at once
(`Spec/SysList.lean`), and delivered under the `List` discipline (`ListSpec.Ok`: each actor's ops in issue order, a delete
after the insert it targets; duplicates allowed).  Every causal delivery schedule is such a run (`runC_run`).
`c.rep i` is the state of actor `i`'s replica, `c.know i` the list of ops it has generated / been delivered, `c.log` all ops
generated so far.  `Steps c c'` : `c'` is reached from `c` by finitely many steps (a later point in time of the same run).

The invariant discharges the hypotheses `LogWF U` and `listSys.Reach U s K` of the theorems of C12 / C13.
-/
namespace Crdt.SysList
open ListSpec ListCrdt Crdt.Sys
open OpRepSys (reach_sub)
section every_run
variable {τ A : Type} [LinOrd A] {c c' : Cfg τ A}

/-- (a) the log of every run is well-formed (`LogWF`: every op carries a dot with a positive counter, no two the same) -/
theorem run_logWF (r : Run c) : LogWF c.log := (sysInv_run r).wf

/-- (b) every replica state of every run is `Reach`-derivable over the run's log, with the replica's knowledge -/
theorem run_reach (r : Run c) (i : A) : listSys.Reach c.log (c.rep i) (c.know i) := (sysInv_run r).reach i

/-- the EARLIER state is derivable over the LATER log: this lets C12 compare states across time -/
theorem run_reach_later (r : Run c) (st : Steps c c') (i : A) : listSys.Reach c'.log (c.rep i) (c.know i) :=
  (run_steps r st).2 (run_reach r i)

/-- (c) an actor's replica knows all of that actor's ops -/
theorem run_own_known (r : Run c) (i : A) {o : ListOp τ A} (h : o ∈ c.log) {d : Dot A} (hd : o.dot = some d)
    (ha : d.actor = i) : o ∈ c.know i := (sysInv_run r).own i o h d hd ha

theorem run_know_sub_log (r : Run c) (i : A) : ∀ o ∈ c.know i, o ∈ c.log := reach_sub (run_reach r i)

theorem run_know_closed (r : Run c) (i : A) : ∀ o ∈ c.know i, Ok c.log (c.know i) o :=
  (C12.inv (run_logWF r) (run_reach r i)).closed

/-- every op of the log carries a dot with a positive counter -/
theorem run_dot_pos (r : Run c) {o : ListOp τ A} (h : o ∈ c.log) : ∃ d, o.dot = some d ∧ 0 < d.counter :=
  (run_logWF r).dot_pos o h

/-- a dot names one op, in every run -/
theorem run_dot_unique (r : Run c) {o o' : ListOp τ A} (h : o ∈ c.log) (h' : o' ∈ c.log) (e : o.dot = o'.dot) : o = o' :=
  (run_logWF r).dot_unique o h o' h' e

/-- (d) per actor, the dot counters of the log are exactly `1 .. clk (c.know i) i` -/
theorem run_contig (r : Run c) (i : A) (n : Nat) :
    (∃ o ∈ c.log, o.dot = some ⟨i, n⟩) ↔ (0 < n ∧ n ≤ clk (c.know i) i) :=
  (sysInv_run r).dots.contig_iff ((sysInv_run r).top i) n

/-- (d) … and that bound is the replica clock of `i` read at `i` -/
theorem run_own_clock (r : Run c) (i : A) : (c.rep i).clock.get i = clk c.log i := by
  rw [(C12.rep (run_logWF r) (run_reach r i)).clock i, (sysInv_run r).clk_know_eq_log i]

/-- **fresh dots**: the dot the API derives at `i` is `i`'s next one, and NO op of the log carries it -/
theorem run_fresh_dot (r : Run c) (i : A) :
    (c.rep i).clock.inc i = ⟨i, clk c.log i + 1⟩ ∧ ∀ o ∈ c.log, o.dot ≠ some ((c.rep i).clock.inc i) := by
  have inv := sysInv_run r
  rewrite [C12.inc_eq inv.wf (inv.reach i) i]
  exact ⟨by rw [inv.clk_know_eq_log i], (inv.top i).next_unused⟩

/-- **identifiers of the inserts of a run**: non-empty, ending in the op's dot (a positive counter), and unique – an
identifier (even just its last marker) names one insert of the whole run -/
theorem run_insert_id (r : Run c) {id : Identifier (OrdDot A)} {v : τ} (h : ListOp.insert id v ∈ c.log) :
    id.path ≠ [] ∧
    (∃ d : Dot A, id.value = some (OrdDot.ofDot d) ∧ (ListOp.insert id v : ListOp τ A).dot = some d ∧ 0 < d.counter) ∧
    (∀ id' v', ListOp.insert id' v' ∈ c.log → id'.value = id.value → id' = id ∧ v' = v) := by
  have wf := run_logWF r
  refine ⟨insert_id_nonempty wf h, ?_, fun id' v' h' e => ?_⟩
  · obtain ⟨d, hd, hp⟩ := wf.dot_pos _ h
    obtain ⟨m, hm, rfl⟩ := Option.map_eq_some_iff.mp hd
    exact ⟨m.toDot, hm, hd, hp⟩
  · cases wf.dot_unique _ h' _ h (congrArg (Option.map OrdDot.toDot) e)
    exact ⟨rfl, rfl⟩

/-- stored identifiers are never the empty one (the invariant of C13), at every replica of every run -/
theorem run_ids_nonempty (r : Run c) (i : A) : C13.IdsNonEmpty (c.rep i) := by
  intro id hid
  obtain ⟨_, hv⟩ := (C12.keys_eq_live (run_logWF r) (run_reach r i) id).mp hid
  exact insert_id_nonempty (run_logWF r) (run_know_sub_log r i _ hv.1)

/-- `apply` does not panic on any op of any run, at any state -/
theorem run_apply_defined (r : Run c) {op : ListOp τ A} (h : op ∈ c.log) (s : ListCrdt τ A) :
    s.apply? op = some (s.apply op) := C12.apply_defined (run_logWF r) h s

/-- **C12 representation**: every replica state of every run IS the executable specification of what it has learned -/
theorem run_state_eq_spec (r : Run c) (i : A) : c.rep i = specState (c.know i) :=
  C12.state_eq_spec (run_logWF r) (run_reach r i)

/-- **C12 representation**, relational form: the clock is per actor the largest known counter, the sequence holds exactly
the live elements -/
theorem run_rep (r : Run c) (i : A) : ListSpec.Rep (c.know i) (c.rep i) := C12.rep (run_logWF r) (run_reach r i)

/-- **`read` is the list of live inserts sorted by identifier**, at every replica of every run -/
theorem run_read_eq_sorted_live (r : Run c) (i : A) :
    (c.rep i).keys.Pairwise (· < ·) ∧
    (∀ id v, (id, v) ∈ (c.rep i).iterEntries ↔ Live (c.know i) id v) ∧
    (c.rep i).keys = (c.rep i).iterEntries.map (·.1) ∧ (c.rep i).read = (c.rep i).iterEntries.map (·.2) ∧
    (∀ l : List (Identifier (OrdDot A) × τ), l.Pairwise (fun p q => p.1 < q.1) →
      (∀ id v, (id, v) ∈ l ↔ Live (c.know i) id v) → (c.rep i).iterEntries = l ∧ (c.rep i).read = l.map (·.2)) ∧
    (c.rep i).read = (specSeq (c.know i)).l.map (·.2) :=
  C12.read_eq_sorted_live (run_logWF r) (run_reach r i)

/-- the identifiers present are exactly those of the live elements -/
theorem run_keys_eq_live (r : Run c) (i : A) (id : Identifier (OrdDot A)) :
    id ∈ (c.rep i).keys ↔ ∃ v, Live (c.know i) id v := C12.keys_eq_live (run_logWF r) (run_reach r i) id

/-- **C12 convergence**: two replicas of a run that have been delivered the same set of ops (in whatever admissible orders,
with whatever duplicates) hold the same state, hence read the same sequence -/
theorem run_same_ops_same_sequence (r : Run c) (i j : A) (e : ∀ o, o ∈ c.know i ↔ o ∈ c.know j) :
    c.rep i = c.rep j ∧ (c.rep i).read = (c.rep j).read ∧ (c.rep i).iterEntries = (c.rep j).iterEntries :=
  C12.same_ops_same_sequence (run_logWF r) (run_reach r i) (run_reach r j) e

/-- the same across TIME: a replica at some point of a run and a replica (the same or another) any number of steps later -/
theorem run_same_ops_same_sequence_later (r : Run c) (st : Steps c c') (i j : A)
    (e : ∀ o, o ∈ c.know i ↔ o ∈ c'.know j) :
    c.rep i = c'.rep j ∧ (c.rep i).read = (c'.rep j).read ∧ (c.rep i).iterEntries = (c'.rep j).iterEntries :=
  C12.same_ops_same_sequence (run_logWF (run_steps r st).1) (run_reach_later r st i) (run_reach (run_steps r st).1 j) e

/-- **C12 one global order**: there is ONE strict total order on identifiers (it is `Ord for Identifier`,
`Model/Identifier.lean`) such that the sequence of every replica of every run – any element type, any number of steps – is
the restriction of that order to the elements live at that replica -/
theorem run_global_order : ∃ lt : Identifier (OrdDot A) → Identifier (OrdDot A) → Prop,
    (∀ a, ¬ lt a a) ∧ (∀ a b c, lt a b → lt b c → lt a c) ∧ (∀ a b, lt a b ∨ a = b ∨ lt b a) ∧
    (∀ a b, lt a b ↔ Identifier.cmp a b = .lt) ∧
    ∀ (τ : Type) (c : Cfg τ A), Run c → ∀ i,
      (c.rep i).keys.Pairwise lt ∧ ∀ id, id ∈ (c.rep i).keys ↔ ∃ v, Live (c.know i) id v := by
  obtain ⟨lt, h1, h2, h3, h4, h5⟩ := C12.global_order (A := A)
  exact ⟨lt, h1, h2, h3, h4, fun τ c r i => h5 τ c.log (c.know i) (c.rep i) (run_logWF r) (run_reach r i)⟩

/-- the value read at the position of a stored identifier is the value of THE insert op carrying that identifier -/
theorem run_position_value (r : Run c) (i : A) {id : Identifier (OrdDot A)} {p : Nat}
    (h : (c.rep i).positionEntry id = some p) : ∃ v, (c.rep i).position p = some v ∧ ListOp.insert id v ∈ c.know i :=
  C12.position_value (run_logWF r) (run_reach r i) h

/-- **C12 relative order never changes**: two elements (identifiers) that are both present at replica `i` now and at
replica `j` any number of steps later appear in the same relative order in both, and each shows the same value in both -/
theorem run_relative_order_stable_later (r : Run c) (st : Steps c c') (i j : A)
    {id₁ id₂ : Identifier (OrdDot A)} {p q p' q' : Nat}
    (p1 : (c.rep i).positionEntry id₁ = some p) (p2 : (c.rep i).positionEntry id₂ = some q)
    (q1 : (c'.rep j).positionEntry id₁ = some p') (q2 : (c'.rep j).positionEntry id₂ = some q') :
    (p < q ↔ p' < q') ∧ (c.rep i).position p = (c'.rep j).position p' ∧ (c.rep i).position q = (c'.rep j).position q' :=
  C12.relative_order_stable (run_logWF (run_steps r st).1) (run_reach_later r st i) (run_reach (run_steps r st).1 j)
    p1 p2 q1 q2

/-- … in particular for two replicas at the same time -/
theorem run_relative_order_stable (r : Run c) (i j : A) {id₁ id₂ : Identifier (OrdDot A)} {p q p' q' : Nat}
    (p1 : (c.rep i).positionEntry id₁ = some p) (p2 : (c.rep i).positionEntry id₂ = some q)
    (q1 : (c.rep j).positionEntry id₁ = some p') (q2 : (c.rep j).positionEntry id₂ = some q') :
    (p < q ↔ p' < q') ∧ (c.rep i).position p = (c.rep j).position p' ∧ (c.rep i).position q = (c.rep j).position q' :=
  run_relative_order_stable_later r (Steps.refl c) i j p1 p2 q1 q2

/-- **C12 each element appears at most once**: no identifier is stored twice at a replica, an identifier sits at one
position only, and distinct inserts of the run carry distinct identifiers -/
theorem run_no_duplicates (r : Run c) (i : A) :
    (c.rep i).keys.Nodup ∧ (c.rep i).iterEntries.Nodup ∧
    (∀ (p q : Nat) id, (c.rep i).keys[p]? = some id → (c.rep i).keys[q]? = some id → p = q) ∧
    (∀ id v id' v', ListOp.insert id v ∈ c.log → ListOp.insert id' v' ∈ c.log →
      (ListOp.insert id v : ListOp τ A) ≠ .insert id' v' → id ≠ id') :=
  C12.no_duplicates (run_logWF r) (c.rep i)

/-- every stored entry is one insert op of the run, determined by its identifier -/
theorem run_entry_is_unique_insert (r : Run c) (i : A) {id : Identifier (OrdDot A)} {v : τ}
    (hm : (id, v) ∈ (c.rep i).iterEntries) : ListOp.insert id v ∈ c.log ∧ ∀ v', ListOp.insert id v' ∈ c.log → v' = v :=
  C12.entry_is_unique_insert (run_logWF r) (run_reach r i) hm

/-- **C12 re-delivery of a known op is a no-op** -/
theorem run_duplicate_absorbed (r : Run c) (i : A) {op : ListOp τ A} (hk : op ∈ c.know i) :
    (c.rep i).apply op = c.rep i := C12.duplicate_absorbed (run_logWF r) (run_reach r i) hk

/-- … as a step of the system: re-delivering a known op is always admissible and changes no replica -/
theorem run_redeliver (r : Run c) (i : A) {op : ListOp τ A} (hk : op ∈ c.know i) :
    Step c (c.deliver i op) ∧ ∀ j, (c.deliver i op).rep j = c.rep j :=
  ⟨.deliver c i op (run_know_sub_log r i op hk) (run_know_closed r i op hk),
    fun j => by show upd c.rep i _ j = _; rw [run_duplicate_absorbed r i hk, upd_self]⟩

/-- … because the dot gate decides membership: an op of the run is gated at a replica iff the replica knows it -/
theorem run_gated_iff_known (r : Run c) (i : A) {op : ListOp τ A} (hu : op ∈ c.log) {d : Dot A} (hd : op.dot = some d) :
    d.counter ≤ (c.rep i).clock.get d.actor ↔ op ∈ c.know i :=
  C12.gated_iff_known (run_logWF r) (run_reach r i) hu hd

/-- **every causal delivery is admissible**: in a run of the causal system, an op recorded with dependencies `D`
(everything its author knew) may be delivered – by a `Step` of the system – to every replica that knows all of `D` -/
theorem runC_causal_ok {cc : CfgC τ A} (r : RunC cc) {i : A} {op : ListOp τ A} {D : List (ListOp τ A)}
    (hp : (op, D) ∈ cc.deps) (causal : ∀ o ∈ D, o ∈ cc.cfg.know i) :
    Run cc.cfg ∧ op ∈ cc.cfg.log ∧ Ok cc.cfg.log (cc.cfg.know i) op :=
  ⟨(runC_run r).1, (runC_run r).2.mem _ hp, depsInv_ok (runC_run r).2 hp causal⟩

/-- **C13 insert lands at the requested index**: at any replica `i` of any run, `insert_index(ix, v, i)` followed by
`apply` is a step of the system, does not panic, and puts `v` at index `min ix len` of the read – all other entries are
untouched and keep their order; the new identifier is non-empty, was absent, and is carried by NO insert of the run so far
(delivered at `i` or not); the other replicas are unchanged -/
theorem run_insert_lands_at_index (r : Run c) (i : A) (ix : Nat) (v : τ) :
    let op := (c.rep i).insertIndex ix v i
    let c₁ := c.gen i op
    Run c₁ ∧
    (c.rep i).apply? op = some (c₁.rep i) ∧
    (c₁.rep i).read = (c.rep i).read.insertIdx (min ix (c.rep i).len) v ∧
    (∃ n, op = .insert n v ∧ n.path ≠ [] ∧ (c.rep i).get n = none ∧ (∀ w, ListOp.insert n w ∉ c.log) ∧
      (c₁.rep i).iterEntries = (c.rep i).iterEntries.insertIdx (min ix (c.rep i).len) (n, v)) ∧
    (c₁.rep i).len = (c.rep i).len + 1 ∧
    (∀ j, j ≠ i → c₁.rep j = c.rep j) := by
  intro op c₁
  obtain ⟨n, s', h1, h2, h3, h4, h5, h6, _, _⟩ := C13.list_insert_index (c.rep i) (run_ids_nonempty r i) ix v i
  obtain rfl : c₁.rep i = s' := (Cfg.gen_rep_same c i op).trans (apply_of_apply? h3)
  have hn : op.id = n := congrArg ListOp.id h1
  exact ⟨r.step (.insertIndex c i ix v), h3, h4,
    ⟨n, h1, hn ▸ insertIndex_id_nonempty _ ix v i, h2, fun w hw => gen_insert_id_unique (sysInv_run r) i ix v n w hw hn.symm, h5⟩,
    h6, fun j hj => Cfg.gen_rep_other c op hj⟩

theorem run_insert_lands_at_index_read (r : Run c) (i : A) (ix : Nat) (v : τ) :
    ((c.gen i ((c.rep i).insertIndex ix v i)).rep i).read = (c.rep i).read.insertIdx (min ix (c.rep i).len) v :=
  (run_insert_lands_at_index r i ix v).2.2.1

/-- **C13 append puts the element last**, at any replica of any run -/
theorem run_append_lands_last (r : Run c) (i : A) (v : τ) :
    Run (c.gen i ((c.rep i).append v i)) ∧ ((c.gen i ((c.rep i).append v i)).rep i).read = (c.rep i).read ++ [v] :=
  ⟨r.step (.append c i v), (run_insert_lands_at_index_read r i _ v).trans
    (by rw [Nat.min_self, len_eq_read, List.insertIdx_length_self])⟩

/-- **C13 delete removes exactly the requested element**, at any replica of any run: `delete_index(ix, i)` with `ix < len`
yields an op, generating and applying it is a step of the system, and the read loses exactly position `ix` -/
theorem run_delete_removes_index (r : Run c) (i : A) {ix : Nat} (h : ix < (c.rep i).len) :
    ∃ op, (c.rep i).deleteIndex ix i = some op ∧ Run (c.gen i op) ∧
      ((c.gen i op).rep i).read = (c.rep i).read.eraseIdx ix ∧ (∀ j, j ≠ i → (c.gen i op).rep j = c.rep j) := by
  obtain ⟨op, h1, h2⟩ := C13.list_delete_index_read (c.rep i) h i
  exact ⟨op, h1, Run.step r (Step.deleteIndex c i ix op h1), by rewrite [Cfg.gen_rep_same]; exact h2,
    fun j hj => Cfg.gen_rep_other c op hj⟩

/-- `delete_index` out of range yields no op (no step) -/
theorem run_delete_out_of_range (i : A) {ix : Nat} (h : (c.rep i).len ≤ ix) : (c.rep i).deleteIndex ix i = none :=
  C13.list_delete_index_out_of_range (c.rep i) h i
end every_run

/-! ## non-vacuity: a concrete run built with the `Step` constructors

Actors 0, 1, 2.  CONCURRENTLY 0 inserts `7` at index 0 (`opA`) and 1 inserts `8` at index 0 (`opB`); 1 receives `opA` (its
list is now `[7, 8]`) and deletes index 0 (`opD`, a delete of `7`'s identifier).  Replica 0 is delivered `opB, opD`,
replica 2 is delivered `opB, opA, opD` and then `opA` once more: orders `A,B,D` at 0, `B,A,D` at 1, `B,A,D,A` at 2. -/
def ex0 : Cfg Nat Nat := Cfg.init
def opA : ListOp Nat Nat := (ex0.rep 0).insertIndex 0 7 0
def ex1 : Cfg Nat Nat := ex0.gen 0 opA
def opB : ListOp Nat Nat := (ex1.rep 1).insertIndex 0 8 1
def ex2 : Cfg Nat Nat := ex1.gen 1 opB
def ex3 : Cfg Nat Nat := ex2.deliver 1 opA
def opD : ListOp Nat Nat := .delete ⟨[(0, (0, 1))]⟩ ⟨1, 2⟩
def ex4 : Cfg Nat Nat := ex3.gen 1 opD
def ex5 : Cfg Nat Nat := ex4.deliver 0 opB
def ex6 : Cfg Nat Nat := ex5.deliver 0 opD
def ex7 : Cfg Nat Nat := ex6.deliver 2 opB
def ex8 : Cfg Nat Nat := ex7.deliver 2 opA
def ex9 : Cfg Nat Nat := ex8.deliver 2 opD
def ex10 : Cfg Nat Nat := ex9.deliver 2 opA

/-- a delivery whose side conditions are checked by evaluation: the op is in the log, and `okB` (the executable discipline) -/
theorem run_deliver {τ A : Type} [LinOrd A] {c : Cfg τ A} [DecidableEq τ] (r : Run c) (i : A) (op : ListOp τ A)
    (ok : (c.log.contains op && okB c.log (c.know i) op) = true) : Run (c.deliver i op) := by
  rewrite [Bool.and_eq_true, List.contains_iff_mem, okB_iff] at ok
  exact r.step (.deliver c i op ok.1 ok.2)

theorem ex_run : Run ex10 := by
  have r1 : Run ex1 := Run.init.step (.insertIndex ex0 0 0 7)
  have r2 : Run ex2 := r1.step (.insertIndex ex1 1 0 8)
  have r3 : Run ex3 := run_deliver r2 1 opA (by decide +kernel)
  have r4 : Run ex4 := r3.step (.deleteIndex ex3 1 0 opD (by decide +kernel))
  have r5 : Run ex5 := run_deliver r4 0 opB (by decide +kernel)
  have r6 : Run ex6 := run_deliver r5 0 opD (by decide +kernel)
  have r7 : Run ex7 := run_deliver r6 2 opB (by decide +kernel)
  have r8 : Run ex8 := run_deliver r7 2 opA (by decide +kernel)
  have r9 : Run ex9 := run_deliver r8 2 opD (by decide +kernel)
  exact run_deliver r9 2 opA (by decide +kernel)

/-- the log of that run; before the delete replica 1 read `[7, 8]`; at the end everybody reads `[8]` -/
example : ex10.log = [.delete ⟨[(0, (0, 1))]⟩ ⟨1, 2⟩, .insert ⟨[(0, (1, 1))]⟩ 8, .insert ⟨[(0, (0, 1))]⟩ 7] := by
  decide +kernel
example : (ex3.rep 1).read = [7, 8] ∧ (ex3.rep 0).read = [7] ∧ (ex3.rep 2).read = [] := by decide +kernel
example : (ex10.rep 0).read = [8] ∧ (ex10.rep 1).read = [8] ∧ (ex10.rep 2).read = [8] := by decide +kernel
example : ex10.know 0 = [opD, opB, opA] ∧ ex10.know 1 = [opD, opA, opB] ∧ ex10.know 2 = [opA, opD, opA, opB] := by
  decide +kernel
/-- the delete is NOT deliverable to replica 2 before the insert it targets (the discipline is not vacuous) -/
example : ¬ Ok ex6.log (ex6.know 2) opD := by rintro ⟨_, _, hv⟩; cases hv
/-- the hypothesis-free theorems apply to it -/
example : ex10.rep 0 = ex10.rep 2 :=
  (run_same_ops_same_sequence ex_run 0 2 (List.mem_iff_of_subset (by decide +kernel) (by decide +kernel))).1
example : LogWF ex10.log := run_logWF ex_run
example : ((ex10.gen 2 ((ex10.rep 2).insertIndex 5 9 2)).rep 2).read = [8, 9] := by
  rewrite [run_insert_lands_at_index_read ex_run 2 5 9]; decide +kernel

end Crdt.SysList
