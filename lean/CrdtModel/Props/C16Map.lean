import CrdtModel.Model.Map
import CrdtModel.Model.MVReg
import CrdtModel.Props.C16
/-!
# C16 for `Map`: the exact verdict of `validate_op`, and the known defect F7 in general form and as a witness

`Map::validate_op` (src/map.rs:169-184) checks the dot against the MAP clock, then against the ENTRY clock of the key
(a default, empty entry if the key is absent), then asks the nested value.  The map-clock part is what the property asks
for; the entry-clock part rejects correct ops (an actor's dot is contiguous in the map clock, not in each entry clock).
This defect (F7) is proved in general form (every state, every value type) and replayed on a concrete `Map<_, MVReg>` at the end of
the file.
-/
namespace Crdt.C16
variable {K V VOp A : Type} [LinOrd K] [LinOrd A] (ops : ValOps V VOp A) (toNat : A → Nat)

/-- key removes are always accepted -/
theorem map_rm_ok (s : CMap K V A) (c : VClock A) (ks : List K) : CMap.validateOp ops toNat s (.rm c ks) = .ok () := rfl

/-- a gap in the author's dots at MAP level is always rejected, with the exact range -/
theorem map_gap_rejected_partial (s : CMap K V A) (d : Dot A) (k : K) (o : VOp) (h : s.clock.get d.actor + 1 < d.counter) :
    CMap.validateOp ops toNat s (.up d k o) = .error (.sourceOrder (toNat d.actor) (s.clock.get d.actor + 1) d.counter) := by
  simp only [CMap.validateOp, vclock_error s.clock d h, CMap.showRange]

/-- **exact verdict, all states, every value type**: an update is accepted iff its dot skips no counter of the MAP clock, skips no
counter of the key's ENTRY clock (the empty clock when the key is absent), and the nested value accepts the nested op.  The middle clause is
the defect F7: on derivable states an entry clock is not contiguous in each actor, so in-order ops are rejected
(`Witness.map_validate_rejects_in_order_op`); the statement shows that it is the ONLY way a gap-free, nested-valid update is rejected. -/
theorem map_ok_iff (s : CMap K V A) (d : Dot A) (k : K) (o : VOp) :
    CMap.validateOp ops toNat s (.up d k o) = .ok () ↔
      d.counter ≤ s.clock.get d.actor + 1 ∧
      d.counter ≤ (((s.entries.get? k).getD ⟨∅, ops.default⟩).clock).get d.actor + 1 ∧
      ops.validateOp ((s.entries.get? k).getD ⟨∅, ops.default⟩).val o = true := by
  -- a clock check passes iff there is no gap (`vclock_ok_iff`); what is left is the order of the three checks in the code
  simp only [CMap.validateOp, ← vclock_ok_iff]
  cases s.clock.validateOp d with
  | error r => simp
  | ok u =>
    cases ((s.entries.get? k).getD ⟨∅, ops.default⟩).clock.validateOp d with
    | error r => simp
    | ok u' => simp

/-- acceptance implies no gap at map level (the converse is FALSE: `Witness.map_validate_rejects_in_order_op`) -/
theorem map_ok_no_gap_partial (s : CMap K V A) (d : Dot A) (k : K) (o : VOp)
    (h : CMap.validateOp ops toNat s (.up d k o) = .ok ()) : d.counter ≤ s.clock.get d.actor + 1 :=
  ((map_ok_iff ops toNat s d k o).mp h).1

/-- in particular: an update of a key the replica does not hold, by an actor whose dot is the next one at MAP level, with a nested op the
default value accepts, is accepted iff the dot's counter is 1 – i.e. only an actor's very FIRST update can create a key (F7 in one line) -/
theorem map_new_key_ok_iff (s : CMap K V A) (d : Dot A) (k : K) (o : VOp) (habs : s.entries.get? k = none)
    (hnext : d.counter = s.clock.get d.actor + 1) (hv : ops.validateOp ops.default o = true) :
    CMap.validateOp ops toNat s (.up d k o) = .ok () ↔ d.counter ≤ 1 := by
  rewrite [map_ok_iff, habs]
  simp only [Option.getD_none, hv, and_true, VClock.get_empty]
  exact and_iff_right (Nat.le_of_eq hnext)

/-- **the defect F7 in general form** (not only a witness): at EVERY Map state, for every actor that has already issued an update
(its entry in the map clock is ≥ 1) and every key the replica does not hold, the update the API itself builds
(`m.update(k, m.read_ctx().derive_add_ctx(a), …)`: dot = the actor's next dot) is REJECTED by `validate_op` – at its own origin, whatever the
value type, although it skips nothing.  (`hv`: the nested value accepts the nested op on the default value – true of every API-built
nested op.) -/
theorem map_second_key_always_rejected (s : CMap K V A) (a : A) (k : K) (o : VOp) (habs : s.entries.get? k = none)
    (hpos : 1 ≤ s.clock.get a) (hv : ops.validateOp ops.default o = true) :
    CMap.validateOp ops toNat s (.up (s.readCtx.deriveAddCtx a).dot k o) ≠ .ok () := by
  intro h
  have : s.clock.get a + 1 ≤ 1 := (map_new_key_ok_iff ops toNat s _ k o habs rfl hv).mp h
  omega

/-- … with the exact error: `SourceOrder(a, 1 .. clock[a] + 1)` computed against the EMPTY entry clock -/
theorem map_second_key_error (s : CMap K V A) (a : A) (k : K) (o : VOp) (habs : s.entries.get? k = none)
    (hpos : 1 ≤ s.clock.get a) :
    CMap.validateOp ops toNat s (.up (s.readCtx.deriveAddCtx a).dot k o) =
      .error (.sourceOrder (toNat a) 1 (s.clock.get a + 1)) := by
  have hd : (s.readCtx.deriveAddCtx a).dot = ⟨a, s.clock.get a + 1⟩ := rfl
  rewrite [hd]
  have h1 : s.clock.validateOp ⟨a, s.clock.get a + 1⟩ = .ok () := vclock_next_ok s.clock a
  have h2 := vclock_error (∅ : VClock A) ⟨a, s.clock.get a + 1⟩ (by rewrite [VClock.get_empty]; exact Nat.add_lt_add_right hpos 1)
  simp only [VClock.get_empty] at h2
  simp only [CMap.validateOp, h1, habs, Option.getD_none, h2, CMap.showRange]

end Crdt.C16

namespace Crdt.Witness
def errCode : Except MapOpValidation Unit → Option (Nat × Nat × Nat)
  | .error (.sourceOrder a s e) => some (a, s, e)
  | _ => none
-- the fields of `MVReg.valOps` (Model/MapInst.lean, not imported here) written out
def mvOps : ValOps (MVReg Nat Nat) (MVOp Nat Nat) Nat :=
  { default := MVReg.init, apply := MVReg.apply, merge := MVReg.merge, resetRemove := MVReg.resetRemove,
    validateOp := fun _ _ => true, validateMerge := fun _ _ => true, eq := MVReg.eq }
def f7s0 : CMap Nat (MVReg Nat Nat) Nat := CMap.init
def f7op0 : MapOp Nat (MVOp Nat Nat) Nat :=
  CMap.update mvOps f7s0 0 (f7s0.readCtx.deriveAddCtx 0) (fun v ctx => v.write 5 ctx)
def f7s1 := CMap.apply mvOps f7s0 f7op0
def f7op1 : MapOp Nat (MVOp Nat Nat) Nat :=
  CMap.update mvOps f7s1 1 (f7s1.readCtx.deriveAddCtx 0) (fun v ctx => v.write 7 ctx)
/-- **F7 (known defect, C16)**: actor 0 updates key 0 then key 1; a replica that has applied the first op rejects the
second – the very next op of that actor – with `SourceOrder(0.(1..2))`, because key 1's (absent ⇒ empty) entry clock is
asked to validate dot (0,2) -/
theorem map_validate_rejects_in_order_op :
    errCode (CMap.validateOp mvOps id (CMap.apply mvOps CMap.init f7op0) f7op1) = some (0, 1, 2) := by decide +kernel
end Crdt.Witness
