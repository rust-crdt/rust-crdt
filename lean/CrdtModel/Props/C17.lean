import CrdtModel.Proofs.OrswotValidate
import CrdtModel.Proofs.OrswotApply
import CrdtModel.Spec.OrswotSys
import CrdtModel.Spec.Lattice
/-!
# C17 — `validate_merge` flags reused dots and nothing else

* **Orswot** (src/orswot.rs:114-130): for ALL pairs of states the merge is rejected iff two DIFFERENT members – one in
  each state – carry the same live dot.  Under correct use **with one member per add** (`SingleAdds`) every pair of
  reachable states is accepted; misuse (e.g. one actor id used at two replicas) is flagged.
  KNOWN DEFECT: with `add_all([m1, m2])` (one dot, two members) CORRECT use is flagged too (`add_all_always_flagged`,
  `Witness.validate_merge_flags_correct_add_all`).
* **LWWReg** (src/lwwreg.rs:68-70, 85-87, 130-136): conflict ⇔ equal marker ∧ different value; never on reachable
  pairs under unique markers.
* Types whose `Validation` is `Infallible` (VClock, GCounter, PNCounter, GSet, MaxReg, MinReg, MVReg, GList):
  `validate_merge` is the constant `Ok(())` in the Rust source; the model has no function for a constant (the driver
  prints the constant `ok`, compared with the crate by the correspondence check).
-/
namespace Crdt.C17

section orswot
variable {M A : Type} [LinOrd M] [LinOrd A]
open Orswot OrswotSpec

/-- **exact verdict, all states**: accepted iff the loop finds no entry `(m, c)` of `a`, stored dot `(x, n)` of `c`
and entry `(m', c')` of `b` with `m' ≠ m` and `c'.get(x) == n` -/
theorem orswot_ok_iff (a b : Orswot M A) :
    a.validateMerge b = .ok () ↔
      ¬ ∃ m c m' c' x n, a.entries.get? m = some c ∧ b.entries.get? m' = some c' ∧ c.dots.get? x = some n ∧
        m' ≠ m ∧ c'.get x = n := validateMerge_ok_iff a b

theorem orswot_error_iff (a b : Orswot M A) :
    (∃ e, a.validateMerge b = .error e) ↔
      ∃ m c m' c' x n, a.entries.get? m = some c ∧ b.entries.get? m' = some c' ∧ c.dots.get? x = some n ∧
        m' ≠ m ∧ c'.get x = n := validateMerge_error_iff a b

/-- **in terms of witnesses** (`a`'s witness clocks store no zero – true of every state built through the API):
accepted iff no two different members share a live dot across the two states -/
theorem orswot_ok_iff_shared {a : Orswot M A} (wa : EntriesWF a.entries) (b : Orswot M A) :
    a.validateMerge b = .ok () ↔
      ¬ ∃ m m' x, m ≠ m' ∧ entryGet a.entries m x ≠ 0 ∧ entryGet b.entries m' x = entryGet a.entries m x := by
  rewrite [validateMerge_ok_iff]
  exact ⟨fun h sh => h (hit_of_sharedDot sh), fun h hit => h (sharedDot_of_hit wa hit)⟩

/-- **symmetric verdict** on well-formed states -/
theorem orswot_symmetric {a b : Orswot M A} (wa : EntriesWF a.entries) (wb : EntriesWF b.entries) :
    a.validateMerge b = .ok () ↔ b.validateMerge a = .ok () := by
  rw [validateMerge_ok_iff, validateMerge_ok_iff, hit_symm wa wb]

/-- … and the well-formedness is needed: with a stored zero counter (only possible by deserialising one) the verdict
depends on the direction -/
theorem orswot_asymmetric_with_stored_zero :
    let a : Orswot Nat Nat := ⟨∅, (∅ : FMap Nat (VClock Nat)).insert 0 ⟨(∅ : FMap Nat Nat).insert 7 0⟩, ∅⟩
    let b : Orswot Nat Nat := ⟨∅, (∅ : FMap Nat (VClock Nat)).insert 1 ⟨(∅ : FMap Nat Nat).insert 8 1⟩, ∅⟩
    (match a.validateMerge b with | .error _ => true | .ok _ => false) = true ∧
    (match b.validateMerge a with | .error _ => true | .ok _ => false) = false := by decide

/-- **misuse is flagged**: if one dot is a live witness of `m` in `a` and of a different member `m'` in `b`, the
verdict is `DoubleSpentDot` (with some payload – which pair is reported depends on the iteration order) – for ALL
states, whatever else they contain -/
theorem orswot_misuse_flagged (a b : Orswot M A) {m m' : M} {x : A} (hne : m ≠ m')
    (hz : entryGet a.entries m x ≠ 0) (he : entryGet b.entries m' x = entryGet a.entries m x) :
    ∃ e, a.validateMerge b = .error e :=
  (validateMerge_error_iff a b).mpr (hit_of_sharedDot ⟨m, m', x, hne, hz, he⟩)

/-- every add of the log names at most one member (`add`, or `add_all` with ≤ 1 member) -/
def SingleAdds (U : List (OrswotOp M A)) : Prop := ∀ d ms, OrswotOp.add d ms ∈ U → ms.length ≤ 1

-- `OrswotSpec.Inv` by its full name: the bare `Inv` is also core's class, and that reading is tried (and fails) first
theorem orswot_ok_rep {U Ka Kb : List (OrswotOp M A)} {a b : Orswot M A} (wf : LogWF U) (single : SingleAdds U)
    (ia : OrswotSpec.Inv U Ka) (ra : Rep Ka a) (ib : OrswotSpec.Inv U Kb) (rb : Rep Kb b) : a.validateMerge b = .ok () := by
  rewrite [orswot_ok_iff_shared ra.ewf]
  rintro ⟨m, m', x, hne, hz, he⟩
  rewrite [ra.entries] at hz he
  rewrite [rb.entries] at he
  obtain ⟨ms, hin, hm⟩ := live_dot_mem hz
  obtain ⟨ms', hin', hm'⟩ := live_dot_mem (by rewrite [he]; exact hz)
  rewrite [he] at hin'
  -- the shared dot names one add (`dot_unique`), so `m` and `m'` are members of the same add, which has at most one
  cases wf.dot_unique _ ms ms' (ia.sub _ hin) (ib.sub _ hin')
  have hl := single _ ms (ia.sub _ hin)
  rcases ms with _ | ⟨y, _ | _⟩
  · cases hm
  · exact hne ((List.mem_singleton.mp hm).trans (List.mem_singleton.mp hm').symm)
  · simp at hl

/-- **correct use is accepted** (single-member adds): any two reachable states of one history – live replicas,
snapshots, stale copies – pass `validate_merge`, in both directions -/
theorem orswot_ok_reachable {U Ka Kb : List (OrswotOp M A)} {a b : Orswot M A} (wf : LogWF U) (single : SingleAdds U)
    (ha : orswotSys.Reach U a Ka) (hb : orswotSys.Reach U b Kb) : a.validateMerge b = .ok () := by
  have ra := RepSys.reach_rep (R := orswotSys) wf ha
  have rb := RepSys.reach_rep (R := orswotSys) wf hb
  exact orswot_ok_rep wf single ra.1 ra.2 rb.1 rb.2

/-- in particular a replica may always merge its own state or any of its snapshots -/
theorem orswot_ok_self {U K : List (OrswotOp M A)} {a : Orswot M A} (wf : LogWF U) (single : SingleAdds U)
    (ha : orswotSys.Reach U a K) : a.validateMerge a = .ok () := orswot_ok_reachable wf single ha ha

/-- **the defect F8 (DESIGN.md §8) in general form** (not only a witness): at EVERY set state without pending removes
whose witnesses of the adding actor are below its clock entry (true of every derivable state: `C18.orswot_reach_le`),
applying the op `add_all` builds for two DIFFERENT members with the actor's next dot yields a state that
`validate_merge` rejects – against itself, hence against every replica that applied the same op. -/
theorem add_all_always_flagged (s : Orswot M A) (d : Dot A) (m1 m2 : M) (hne : m1 ≠ m2) (hdef : s.deferred = ∅)
    (hfresh : s.clock.get d.actor < d.counter) (hle : ∀ m, entryGet s.entries m d.actor ≤ s.clock.get d.actor) :
    ∃ e, (s.apply (.add d [m1, m2])).validateMerge (s.apply (.add d [m1, m2])) = .error e := by
  have hstate : (s.apply (.add d [m1, m2])).entries = insertAll d [m1, m2] s.entries := by
    rewrite [apply_add_of_fresh (Nat.not_le.mpr hfresh), hdef]; rfl
  have h : ∀ m ∈ [m1, m2], entryGet (s.apply (.add d [m1, m2])).entries m d.actor = d.counter := fun m hm => by
    rewrite [hstate, entryGet_insertAll_max, addCtrOf, if_pos ⟨rfl, hm⟩]
    exact Nat.max_eq_left (Nat.le_of_lt (Nat.lt_of_le_of_lt (hle m) hfresh))
  refine orswot_misuse_flagged _ _ hne (x := d.actor) ?_ ((h m2 (.tail _ (.head _))).trans (h m1 (.head _)).symm)
  rewrite [h m1 (.head _)]
  exact Nat.ne_of_gt (Nat.zero_lt_of_lt hfresh)

end orswot

section lww
variable {ν μ : Type} [DecidableEq ν] [LinOrd μ]

/-- conflict ⇔ equal marker and different value – for `validate_merge` and `validate_op` alike -/
theorem lww_merge_conflict_iff (s o : LWWReg ν μ) :
    s.validateMerge o = .error .conflictingMarker ↔ (s.marker = o.marker ∧ o.val ≠ s.val) := by
  unfold LWWReg.validateMerge LWWReg.validateUpdate; split
  · next h => exact iff_of_true rfl h
  · next h => exact iff_of_false (fun e => nomatch e) h

theorem lww_merge_ok_iff (s o : LWWReg ν μ) :
    s.validateMerge o = .ok () ↔ ¬ (s.marker = o.marker ∧ o.val ≠ s.val) := by
  unfold LWWReg.validateMerge LWWReg.validateUpdate; split
  · next h => exact iff_of_false (fun e => nomatch e) (not_not_intro h)
  · next h => exact iff_of_true rfl h

/-- the verdict does not depend on the direction -/
theorem lww_symmetric (s o : LWWReg ν μ) : s.validateMerge o = .ok () ↔ o.validateMerge s = .ok () := by
  rewrite [lww_merge_ok_iff, lww_merge_ok_iff]
  constructor <;> (rintro h ⟨e, ne⟩; exact h ⟨e.symm, fun x => ne x.symm⟩)

/-- with unique markers (the type's documented premise) no two registers of the history conflict, whichever is checked
against the other (an op of `LWWReg` is a register, and `validate_op` is `validate_merge`) -/
theorem lww_ok_of_unique {r0 : LWWReg ν μ} {U : List (LWWReg ν μ)} (wf : UniqueMarkers r0 U) {s o : LWWReg ν μ}
    (hs : s = r0 ∨ s ∈ U) (ho : o = r0 ∨ o ∈ U) : s.validateMerge o = .ok () := by
  rewrite [lww_merge_ok_iff]
  rintro ⟨e, ne⟩
  exact ne (by rw [wf s o hs ho e])

theorem lww_ok_reachable (r0 : LWWReg ν μ) {U K K' : List (LWWReg ν μ)} {s s' : LWWReg ν μ} (wf : UniqueMarkers r0 U)
    (h : (lwwSys r0).Reach U s K) (h' : (lwwSys r0).Reach U s' K') : s.validateMerge s' = .ok () :=
  have r := RepSys.reach_rep (R := lwwSys r0) wf h
  have r' := RepSys.reach_rep (R := lwwSys r0) wf h'
  lww_ok_of_unique wf (r.2.1.imp id (r.1 s)) (r'.2.1.imp id (r'.1 s'))

end lww

/-! ## non-vacuity: a log that meets `LogWF` and `SingleAdds`; a misuse that is flagged -/
section examples
open OrswotSpec
def exU : List (OrswotOp Nat Nat) := [.add ⟨0, 1⟩ [5], .add ⟨1, 1⟩ [6]]
example : LogWF exU ∧ SingleAdds exU :=
  ⟨.of_nodup (by decide) (by decide), fun d ms h => by rcases h with _ | ⟨_, _ | ⟨_, ⟨⟩⟩⟩ <;> exact Nat.le_refl 1⟩
/-- misuse: actor 0 used at two replicas for two different members → flagged -/
example : (match ((Orswot.init : Orswot Nat Nat).apply (.add ⟨0, 1⟩ [5])).validateMerge
    ((Orswot.init : Orswot Nat Nat).apply (.add ⟨0, 1⟩ [6])) with | .error _ => true | .ok _ => false) = true := by decide
end examples

end Crdt.C17
