import CrdtModel.Props.C18Map
import CrdtModel.Proofs.MapWF
import CrdtModel.Proofs.MapNested
import CrdtModel.Props.C10
/-!
# C18 for `Map`, derivable states — the structural invariant `MapWF` holds in every derivable Map state

`Props/C18Map.lean` proves the laws of `Map::reset_remove` (src/map.rs:90-119) under the structural invariant
`MapWF W s` (Proofs/ResetRemoveMap.lean) and shows that the KEY half holds in every derivable state (`map_reach_keys_wf`).
Here the VALUE half is proved.
The leaf invariants `Orswot.StateWF` and `MVReg.ValsWF` are preserved by `apply` / `merge` on ARBITRARY well-formed states –
nested Orswots are not derivable in the `orswotSys` sense, a key remove resets them.  Generically: if the value type's
operations preserve `W` (`ValClosed ops W OpW`, nested ops restricted by `OpW`), every value stored in a derivable Map state
satisfies `W`, hence `MapWF W`; and a Map over a closed value type is itself a closed value type w.r.t. `MapWF W`, which gives
every nesting depth and makes the laws of `reset_remove` unconditional statements about derivable states.

Hypotheses on the log: `LogWF (keyLog U)` (at key level a dot names one key, key-remove contexts store no zero) and
"every nested op carried by an update of `U` is well formed" (`OpW`: see `ValClosed`, Proofs/MapWF.lean).  These are what
generation through the API guarantees (contexts are state clocks).  The hypothesis on nested ops is necessary (`nested_op_wf_needed`).
-/
namespace Crdt.C18
open CMap OrswotSpec

section leaf
variable {ν M A : Type} [LinOrd M] [LinOrd A]

/-- **`Orswot::apply` preserves `StateWF`** on every well-formed state, for every add (a counter-0 dot is ignored by
`apply`) and every remove whose context stores no zero -/
theorem orswot_wf_apply {s : Orswot M A} (wf : Orswot.StateWF s) {op : OrswotOp M A} (hop : Orswot.OpWF op) :
    Orswot.StateWF (s.apply op) := Orswot.stateWF_apply wf hop

/-- **`Orswot::merge` preserves `StateWF`** on every pair of well-formed states -/
theorem orswot_wf_merge {s o : Orswot M A} (wf : Orswot.StateWF s) (wo : Orswot.StateWF o) :
    Orswot.StateWF (s.merge o) := Orswot.stateWF_merge wf wo

/-- **`MVReg::apply` preserves `ValsWF`** for every `Put` whose clock stores no zero (an empty clock is ignored) -/
theorem mvreg_wf_apply {s : MVReg ν A} (wf : MVReg.ValsWF s) {op : MVOp ν A} (hop : op.clock.NoZero) :
    MVReg.ValsWF (s.apply op) := by
  cases he : op.clock.isEmpty with
  | true => rwa [MVReg.apply_of_isEmpty _ _ he]
  | false =>
    -- `apply` keeps a sub-list of the stored pairs and possibly appends the op's pair
    intro p hp
    rewrite [MVReg.apply_vals s he, List.mem_append] at hp
    rcases hp with h | h
    · exact wf p (List.mem_filter.mp h).1
    · cases List.mem_singleton.mp (List.mem_ite_nil_left.mp h).2; exact ⟨hop, he⟩

/-- **`MVReg::merge` preserves `ValsWF`** -/
theorem mvreg_wf_merge {s o : MVReg ν A} (wf : MVReg.ValsWF s) (wo : MVReg.ValsWF o) : MVReg.ValsWF (s.merge o) := by
  -- `merge` keeps a sub-list of each side
  intro p hp
  rcases List.mem_append.mp hp with h | h
  · exact wf p (List.mem_filter.mp h).1
  · exact wo p (List.mem_filter.mp (List.mem_filter.mp h).1).1

end leaf

section generic
variable {K V VOp A : Type} [LinOrd K] [LinOrd A] {ops : ValOps V VOp A} {W : V → Prop} {OpW : VOp → Prop}

/-- **value half**: in every derivable Map state every stored value satisfies the value type's invariant, provided the
value type's operations preserve it and the updates of the log carry well-formed nested ops -/
theorem map_reach_vals (C : ValClosed ops W OpW) {U L : List (MapOp K VOp A)} {s : CMap K V A}
    (hU : ∀ d k o, MapOp.up d k o ∈ U → OpW o) (h : CMap.Reach ops U s L) :
    ∀ k en, s.entries.get? k = some en → W en.val := by
  induction h with
  | init => exact allVals_empty
  | @apply s L op _ hu _ ih => exact allVals_apply C ih (fun d k o e => hU d k o (e ▸ hu))
  | @merge s L s' L' _ _ ih1 ih2 => exact allVals_merge C ih1 ih2

/-- **every derivable Map state satisfies the structural invariant `MapWF`** -/
theorem map_reach_wf {U L : List (MapOp K VOp A)} {s : CMap K V A} (wf : LogWF (keyLog U)) (C : ValClosed ops W OpW)
    (hU : ∀ d k o, MapOp.up d k o ∈ U → OpW o) (h : CMap.Reach ops U s L) : MapWF W s :=
  ⟨map_reach_keys_wf wf h, map_reach_vals C hU h⟩

/-- `Map::apply` preserves `MapWF` on every well-formed map (not only derivable ones) -/
theorem map_wf_apply (C : ValClosed ops W OpW) {s : CMap K V A} (wf : MapWF W s) {op : MapOp K VOp A}
    (hop : MapOpW OpW op) : MapWF W (CMap.apply ops s op) := by
  refine ⟨?_, allVals_apply C wf.vals (fun d k o e => by subst e; exact hop)⟩
  rewrite [apply_sim ops s op wf.keys.clock_nz (deferred_nz_of_wf wf) (fun c ks e => by subst e; exact hop)]
  exact Orswot.stateWF_apply wf.keys (opWF_keyOp hop)

/-- `Map::merge` preserves `MapWF` on every pair of well-formed maps -/
theorem map_wf_merge (C : ValClosed ops W OpW) {s o : CMap K V A} (wf : MapWF W s) (wo : MapWF W o) :
    MapWF W (CMap.merge ops s o) := by
  refine ⟨?_, allVals_merge C wf.vals wo.vals⟩
  rewrite [merge_sim ops s o wf.keys.clock_nz (deferred_nz_of_wf wf) (deferred_nz_of_wf wo)]
  exact Orswot.stateWF_merge wf.keys wo.keys

/-- a Map over a closed value type is a closed value type (invariant `MapWF W`, ops: nested op well formed, key-remove
contexts without stored zeros): `map_reach_wf` applies at every nesting depth -/
theorem map_closed (C : ValClosed ops W OpW) (toNat : A → Nat) :
    ValClosed (CMap.valOps (K := K) ops toNat) (MapWF W) (MapOpW OpW) where
  default := mapWF_init
  apply := fun _ _ wf hop => map_wf_apply C wf hop
  merge := fun _ _ wf wo => map_wf_merge C wf wo
  rr := fun _ c wf => mapWF_resetRemove C.rr wf c

variable {U L : List (MapOp K VOp A)} {s : CMap K V A}

/-- the laws of `Map::reset_remove`, unconditionally on derivable states: `c1` then `c2` = their join … -/
theorem map_reach_compose (Lw : RRLawful ops W) (C : ValClosed ops W OpW) (wf : LogWF (keyLog U))
    (hU : ∀ d k o, MapOp.up d k o ∈ U → OpW o) (h : CMap.Reach ops U s L) (c1 c2 : VClock A) :
    CMap.resetRemove ops (CMap.resetRemove ops s c1) c2 = CMap.resetRemove ops s (c1.merge c2) :=
  map_compose Lw (map_reach_wf wf C hU h) c1 c2

/-- … the empty clock changes nothing … -/
theorem map_reach_empty (Lw : RRLawful ops W) (C : ValClosed ops W OpW) (wf : LogWF (keyLog U))
    (hU : ∀ d k o, MapOp.up d k o ∈ U → OpW o) (h : CMap.Reach ops U s L) : CMap.resetRemove ops s ∅ = s :=
  map_empty Lw (map_reach_wf wf C hU h)

/-- … repeating is a no-op … -/
theorem map_reach_idem (Lw : RRLawful ops W) (C : ValClosed ops W OpW) (wf : LogWF (keyLog U))
    (hU : ∀ d k o, MapOp.up d k o ∈ U → OpW o) (h : CMap.Reach ops U s L) (c : VClock A) :
    CMap.resetRemove ops (CMap.resetRemove ops s c) c = CMap.resetRemove ops s c :=
  map_idem Lw (map_reach_wf wf C hU h) c

/-- … and the order of two resets is irrelevant -/
theorem map_reach_commute (Lw : RRLawful ops W) (C : ValClosed ops W OpW) (wf : LogWF (keyLog U))
    (hU : ∀ d k o, MapOp.up d k o ∈ U → OpW o) (h : CMap.Reach ops U s L) (c1 c2 : VClock A) :
    CMap.resetRemove ops (CMap.resetRemove ops s c1) c2 = CMap.resetRemove ops (CMap.resetRemove ops s c2) c1 :=
  map_commute Lw (map_reach_wf wf C hU h) c1 c2

end generic

section instances
variable {K K2 ν M A : Type} [LinOrd K] [LinOrd K2] [LinOrd M] [LinOrd A] [DecidableEq ν]

/-- `MVReg`'s operations preserve `ValsWF` (`Put` clocks without stored zeros) -/
theorem mvreg_closed : ValClosed (MVReg.valOps : ValOps (MVReg ν A) (MVOp ν A) A) MVReg.ValsWF MVReg.OpWF where
  default := fun _ hp => nomatch hp
  apply := fun _ _ wf hop => mvreg_wf_apply wf hop
  merge := fun _ _ wf wo => mvreg_wf_merge wf wo
  rr := fun _ c wf => MVReg.valsWF_resetRemove wf c

/-- `Orswot`'s operations preserve `StateWF` (remove contexts without stored zeros) -/
theorem orswot_closed : ValClosed (Orswot.valOps : ValOps (Orswot M A) (OrswotOp M A) A) Orswot.StateWF Orswot.OpWF where
  default := Orswot.stateWF_init
  apply := fun _ _ wf hop => Orswot.stateWF_apply wf hop
  merge := fun _ _ wf wo => Orswot.stateWF_merge wf wo
  rr := fun _ c wf => Orswot.stateWF_resetRemove wf c

section mvreg
variable {U L : List (MapOp K (MVOp ν A) A)} {s : CMap K (MVReg ν A) A}

/-- derivable states of `Map<K, MVReg>` satisfy `MapWF` -/
theorem map_mvreg_reach_wf (wf : LogWF (keyLog U)) (hU : ∀ d k o, MapOp.up d k o ∈ U → o.clock.NoZero)
    (h : CMap.Reach MVReg.valOps U s L) : MapWF MVReg.ValsWF s := map_reach_wf wf mvreg_closed hU h

theorem map_mvreg_reach_compose (wf : LogWF (keyLog U)) (hU : ∀ d k o, MapOp.up d k o ∈ U → o.clock.NoZero)
    (h : CMap.Reach MVReg.valOps U s L) (c1 c2 : VClock A) :
    CMap.resetRemove MVReg.valOps (CMap.resetRemove MVReg.valOps s c1) c2 =
      CMap.resetRemove MVReg.valOps s (c1.merge c2) :=
  map_compose mvreg_lawful (map_mvreg_reach_wf wf hU h) c1 c2

theorem map_mvreg_reach_empty (wf : LogWF (keyLog U)) (hU : ∀ d k o, MapOp.up d k o ∈ U → o.clock.NoZero)
    (h : CMap.Reach MVReg.valOps U s L) : CMap.resetRemove MVReg.valOps s ∅ = s :=
  map_empty mvreg_lawful (map_mvreg_reach_wf wf hU h)

theorem map_mvreg_reach_idem (wf : LogWF (keyLog U)) (hU : ∀ d k o, MapOp.up d k o ∈ U → o.clock.NoZero)
    (h : CMap.Reach MVReg.valOps U s L) (c : VClock A) :
    CMap.resetRemove MVReg.valOps (CMap.resetRemove MVReg.valOps s c) c = CMap.resetRemove MVReg.valOps s c :=
  map_idem mvreg_lawful (map_mvreg_reach_wf wf hU h) c

end mvreg

section orswot
variable {U L : List (MapOp K (OrswotOp M A) A)} {s : CMap K (Orswot M A) A}

/-- derivable states of `Map<K, Orswot>` satisfy `MapWF` -/
theorem map_orswot_reach_wf (wf : LogWF (keyLog U)) (hU : ∀ d k o, MapOp.up d k o ∈ U → Orswot.OpWF o)
    (h : CMap.Reach Orswot.valOps U s L) : MapWF Orswot.StateWF s := map_reach_wf wf orswot_closed hU h

theorem map_orswot_reach_compose (wf : LogWF (keyLog U)) (hU : ∀ d k o, MapOp.up d k o ∈ U → Orswot.OpWF o)
    (h : CMap.Reach Orswot.valOps U s L) (c1 c2 : VClock A) :
    CMap.resetRemove Orswot.valOps (CMap.resetRemove Orswot.valOps s c1) c2 =
      CMap.resetRemove Orswot.valOps s (c1.merge c2) :=
  map_compose orswot_lawful (map_orswot_reach_wf wf hU h) c1 c2

theorem map_orswot_reach_empty (wf : LogWF (keyLog U)) (hU : ∀ d k o, MapOp.up d k o ∈ U → Orswot.OpWF o)
    (h : CMap.Reach Orswot.valOps U s L) : CMap.resetRemove Orswot.valOps s ∅ = s :=
  map_empty orswot_lawful (map_orswot_reach_wf wf hU h)

theorem map_orswot_reach_idem (wf : LogWF (keyLog U)) (hU : ∀ d k o, MapOp.up d k o ∈ U → Orswot.OpWF o)
    (h : CMap.Reach Orswot.valOps U s L) (c : VClock A) :
    CMap.resetRemove Orswot.valOps (CMap.resetRemove Orswot.valOps s c) c = CMap.resetRemove Orswot.valOps s c :=
  map_idem orswot_lawful (map_orswot_reach_wf wf hU h) c

end orswot

/-! `Map<K, Map<K2, MVReg>>` (the nesting of the crate's own tests); deeper nestings iterate `map_closed` / `map_lawful` -/
section mapmap
variable (toNat : A → Nat) {U L : List (MapOp K (MapOp K2 (MVOp ν A) A) A)} {s : CMap K (CMap K2 (MVReg ν A) A) A}

/-- derivable states of `Map<K, Map<K2, MVReg>>` satisfy `MapWF (MapWF ValsWF)`: the nested maps – which are NOT derivable
Map states themselves, outer key removes reset them – are well formed at both levels -/
theorem map_map_mvreg_reach_wf (wf : LogWF (keyLog U)) (hU : ∀ d k o, MapOp.up d k o ∈ U → MapOpW MVReg.OpWF o)
    (h : CMap.Reach (CMap.valOps MVReg.valOps toNat) U s L) : MapWF (MapWF MVReg.ValsWF) s :=
  map_reach_wf wf (map_closed mvreg_closed toNat) hU h

theorem map_map_mvreg_reach_compose (wf : LogWF (keyLog U)) (hU : ∀ d k o, MapOp.up d k o ∈ U → MapOpW MVReg.OpWF o)
    (h : CMap.Reach (CMap.valOps MVReg.valOps toNat) U s L) (c1 c2 : VClock A) :
    CMap.resetRemove (CMap.valOps MVReg.valOps toNat) (CMap.resetRemove (CMap.valOps MVReg.valOps toNat) s c1) c2 =
      CMap.resetRemove (CMap.valOps MVReg.valOps toNat) s (c1.merge c2) :=
  map_map_mvreg_compose toNat (map_map_mvreg_reach_wf toNat wf hU h) c1 c2

theorem map_map_mvreg_reach_empty (wf : LogWF (keyLog U)) (hU : ∀ d k o, MapOp.up d k o ∈ U → MapOpW MVReg.OpWF o)
    (h : CMap.Reach (CMap.valOps MVReg.valOps toNat) U s L) :
    CMap.resetRemove (CMap.valOps MVReg.valOps toNat) s ∅ = s :=
  map_map_mvreg_empty toNat (map_map_mvreg_reach_wf toNat wf hU h)

theorem map_map_mvreg_reach_idem (wf : LogWF (keyLog U)) (hU : ∀ d k o, MapOp.up d k o ∈ U → MapOpW MVReg.OpWF o)
    (h : CMap.Reach (CMap.valOps MVReg.valOps toNat) U s L) (c : VClock A) :
    CMap.resetRemove (CMap.valOps MVReg.valOps toNat) (CMap.resetRemove (CMap.valOps MVReg.valOps toNat) s c) c =
      CMap.resetRemove (CMap.valOps MVReg.valOps toNat) s c :=
  map_idem (map_lawful mvreg_lawful toNat) (map_map_mvreg_reach_wf toNat wf hU h) c

end mapmap
end instances

/-! ## non-vacuity and sharpness -/
namespace ReachExample

abbrev ROp := MapOp Nat (MVOp Nat Nat) Nat
abbrev rops : ValOps (MVReg Nat Nat) (MVOp Nat Nat) Nat := MVReg.valOps

def op1 : ROp := .up ⟨0, 1⟩ 3 ⟨VClock.ofDot ⟨0, 1⟩, 7⟩
def op2 : ROp := .up ⟨1, 1⟩ 3 ⟨VClock.ofDot ⟨1, 1⟩, 8⟩
def op3 : ROp := .rm (VClock.ofDot ⟨0, 1⟩) [3]
def Ur : List ROp := [op1, op2, op3]
def sr : CMap Nat (MVReg Nat Nat) Nat := [op1, op2, op3].foldl (CMap.apply rops) CMap.init

theorem wfr : LogWF (keyLog Ur) := .of_nodup (by decide) (by decide)

theorem nestedr : ∀ d k o, MapOp.up d k o ∈ Ur → o.clock.NoZero := by
  rintro d k o (_ | ⟨_, _ | ⟨_, _ | ⟨_, ⟨⟩⟩⟩⟩)
  · exact C10.noZero_ofDot ⟨0, 1⟩
  · exact C10.noZero_ofDot ⟨1, 1⟩

theorem reachr : CMap.Reach rops Ur sr [op3, op2, op1] :=
  have pos : ∀ o ∈ keyLog Ur, ∀ d, addDot o = some d → 0 < d.counter := by decide
  CMap.Reach.init
    |>.apply (op := op1) (by simp [Ur]) (predsIn_one pos 0)
    |>.apply (op := op2) (by simp [Ur]) (predsIn_one pos 1)
    |>.apply (op := op3) (by simp [Ur]) trivial

/-- the hypotheses of `map_mvreg_reach_wf` are satisfiable: a 3-op history (two concurrent writes under one key, then a key
remove that covers one of them) … -/
example : MapWF MVReg.ValsWF sr := map_mvreg_reach_wf wfr nestedr reachr

/-- … whose final state is not trivial: key 3 survives with the write the remove had not seen -/
example : sr.entries.l.map (fun p => (p.1, p.2.val.vals.map (·.2))) = [(3, [8])] := by decide +kernel

/-- … and on which the composition law therefore holds for all clocks -/
example (c1 c2 : VClock Nat) :
    CMap.resetRemove rops (CMap.resetRemove rops sr c1) c2 = CMap.resetRemove rops sr (c1.merge c2) :=
  map_mvreg_reach_compose wfr nestedr reachr c1 c2

/-- **the hypothesis on nested ops is necessary**: a `Put` whose clock stores a zero (not producible through the API, but
`Op` fields are public) is stored by `MVReg::apply`, and on the resulting – derivable – Map state composition fails:
resetting with `∅` and then with `z = {5:0}` drops the nested value, resetting with `∅ ⊔ z = ∅` keeps it -/
theorem nested_op_wf_needed :
    let z : VClock Nat := ⟨(∅ : FMap Nat Nat).insert 5 0⟩
    let s := CMap.apply rops (CMap.init : CMap Nat (MVReg Nat Nat) Nat) (.up ⟨0, 1⟩ 3 ⟨z, 7⟩)
    (CMap.resetRemove rops (CMap.resetRemove rops s ∅) z).entries.l.map (fun p => p.2.val.vals) ≠
      (CMap.resetRemove rops s ((∅ : VClock Nat).merge z)).entries.l.map (fun p => p.2.val.vals) := by
  decide +kernel

end ReachExample

end Crdt.C18
