import CrdtModel.Proofs.ResetRemoveMVReg
import CrdtModel.Proofs.ResetRemoveOrswot
import CrdtModel.Spec.Lattice
import CrdtModel.Spec.MVReg
import CrdtModel.Props.C04
/-!
# C18 — `reset_remove(c)` forgets exactly what the clock `c` covers

For `VClock`, `GCounter`, `PNCounter`, `MVReg`, `Orswot` (for `Map` see Props/C18Map.lean and Props/C18MapReach.lean):
`reset_remove(c)` removes exactly the data all of whose witnessing dots are covered by `c` and keeps everything else with
the covered dots subtracted from its contexts; the empty clock changes nothing; the holder's own full clock empties it;
`c1` then `c2` equals their join `c1 ⊔ c2` (`VClock.merge`); repeating is a no-op.

Every statement is for ALL clocks `c` (below, above or concurrent with the state) and for all states satisfying the
structural invariant of the type (`NoZero` clocks; `MVReg.ValsWF`; `Orswot.StateWF`) – which every reachable state
satisfies (`*_reach_*` theorems, from the representation theorems) and which `reset_remove` preserves (`*_wf`).
Where no invariant is needed the statement is for all states (except `vclock_commute`, `orswot_commute`: theirs is unused).
-/
namespace Crdt.C18

/-! ## VClock (src/vclock.rs:85-91) -/
section vclock
variable {α : Type} [LinOrd α]

/-- pointwise: the counter of `x` is kept iff it is strictly newer than `c`'s (all clocks) -/
theorem vclock_get (s c : VClock α) (x : α) :
    (s.resetRemove c).get x = if s.get x > c.get x then s.get x else 0 := VClock.get_resetRemove s c x

/-- at the level of the stored map: entries strictly above `c` are kept unchanged, the others are deleted -/
theorem vclock_entry {s : VClock α} (hs : s.NoZero) (c : VClock α) (x : α) :
    (s.resetRemove c).dots.get? x = if s.get x > c.get x then s.dots.get? x else none :=
  VClock.get?_resetRemove_of_noZero hs c x

/-- … without any assumption (stored zeros included): dropped iff `c` stores a counter `≥` the entry -/
theorem vclock_entry_raw (s c : VClock α) (x : α) :
    (s.resetRemove c).dots.get? x =
      match c.dots.get? x with
      | some n => if n ≥ s.get x then none else s.dots.get? x
      | none => s.dots.get? x := VClock.get?_resetRemove s c x

theorem vclock_empty (s : VClock α) : s.resetRemove ∅ = s := VClock.resetRemove_empty s
theorem vclock_self (s : VClock α) : s.resetRemove s = ∅ := VClock.resetRemove_self s

/-- everything is forgotten iff `c` dominates the clock -/
theorem vclock_covered_iff {s : VClock α} (hs : s.NoZero) (c : VClock α) : s.resetRemove c = ∅ ↔ s.le c :=
  VClock.resetRemove_eq_empty_iff hs c

/-- nothing is forgotten iff `c` is strictly below the clock wherever the clock has an entry -/
theorem vclock_untouched_iff {s : VClock α} (hs : s.NoZero) (c : VClock α) :
    s.resetRemove c = s ↔ ∀ x, s.get x ≠ 0 → c.get x < s.get x := by
  constructor
  · intro e x hx
    have := vclock_get s c x
    rewrite [e] at this
    split at this
    · assumption
    · exact absurd this hx
  · intro h
    apply VClock.ext_get (VClock.noZero_resetRemove hs c) hs
    intro x
    rewrite [vclock_get]
    by_cases hx : s.get x = 0
    · rewrite [hx]; exact ite_self 0
    · exact if_pos (h x hx)

theorem vclock_compose {s : VClock α} (hs : s.NoZero) (c1 c2 : VClock α) :
    (s.resetRemove c1).resetRemove c2 = s.resetRemove (c1.merge c2) := VClock.resetRemove_resetRemove hs c1 c2

theorem vclock_commute {s : VClock α} (hs : s.NoZero) (c1 c2 : VClock α) :
    (s.resetRemove c1).resetRemove c2 = (s.resetRemove c2).resetRemove c1 := VClock.resetRemove_comm s c1 c2

theorem vclock_idem (s c : VClock α) : (s.resetRemove c).resetRemove c = s.resetRemove c := VClock.resetRemove_idem s c

theorem vclock_wf {s : VClock α} (hs : s.NoZero) (c : VClock α) : (s.resetRemove c).NoZero := VClock.noZero_resetRemove hs c

/-- what remains is a sub-clock of what was there -/
theorem vclock_le (s c : VClock α) : (s.resetRemove c).le s := VClock.resetRemove_le s c

/-- every derivable clock (any ops, any order, merges) satisfies the invariant -/
theorem vclock_reach_wf {U K : List (Dot α)} {s : VClock α} (h : vclockSys.Reach U s K) : s.NoZero :=
  (RepSys.reach_rep (R := vclockSys) trivial h).2.1

end vclock

/-! ## GCounter (src/gcounter.rs:67-69) -/
section gcounter
variable {α : Type} [LinOrd α]

theorem gcounter_get (s : GCounter α) (c : VClock α) (x : α) :
    (s.resetRemove c).inner.get x = if s.inner.get x > c.get x then s.inner.get x else 0 :=
  VClock.get_resetRemove s.inner c x

theorem gcounter_empty (s : GCounter α) : s.resetRemove ∅ = s := by cases s; rfl

/-- the counter's own clock resets it: state = new counter, `read = 0` -/
theorem gcounter_self (s : GCounter α) : s.resetRemove s.inner = GCounter.init ∧ (s.resetRemove s.inner).read = 0 := by
  have : s.resetRemove s.inner = GCounter.init := GCounter.ext (VClock.resetRemove_self s.inner)
  exact ⟨this, by rewrite [this]; rfl⟩

theorem gcounter_covered {s : GCounter α} (hs : s.inner.NoZero) {c : VClock α} (h : s.inner.le c) :
    s.resetRemove c = GCounter.init := GCounter.ext (VClock.resetRemove_of_le hs h)

/-- `read` afterwards: the sum of the per-actor totals strictly above `c` -/
theorem gcounter_read {s : GCounter α} (hs : s.inner.NoZero) (c : VClock α) :
    (s.resetRemove c).read = ((s.inner.dots.l.filter (fun p => decide (p.2 > c.get p.1))).map (·.2)).sum := by
  rw [GCounter.read_eq, AL.sumVals_eq, GCounter.resetRemove, VClock.resetRemove_dots hs]

theorem gcounter_compose {s : GCounter α} (hs : s.inner.NoZero) (c1 c2 : VClock α) :
    (s.resetRemove c1).resetRemove c2 = s.resetRemove (c1.merge c2) :=
  GCounter.ext (VClock.resetRemove_resetRemove hs c1 c2)

theorem gcounter_idem (s : GCounter α) (c : VClock α) : (s.resetRemove c).resetRemove c = s.resetRemove c :=
  GCounter.ext (VClock.resetRemove_idem s.inner c)

theorem gcounter_wf {s : GCounter α} (hs : s.inner.NoZero) (c : VClock α) : (s.resetRemove c).inner.NoZero :=
  VClock.noZero_resetRemove hs c

theorem gcounter_reach_wf {U K : List (Dot α)} {s : GCounter α} (h : gcounterSys.Reach U s K) : s.inner.NoZero :=
  (RepSys.reach_rep (R := gcounterSys) trivial h).2.1

end gcounter

/-! ## PNCounter (src/pncounter.rs:96-99): both halves -/
section pncounter
variable {α : Type} [LinOrd α]

def PNWF (s : PNCounter α) : Prop := s.p.inner.NoZero ∧ s.n.inner.NoZero

theorem pncounter_get (s : PNCounter α) (c : VClock α) (x : α) :
    (s.resetRemove c).p.inner.get x = (if s.p.inner.get x > c.get x then s.p.inner.get x else 0) ∧
    (s.resetRemove c).n.inner.get x = (if s.n.inner.get x > c.get x then s.n.inner.get x else 0) :=
  ⟨VClock.get_resetRemove s.p.inner c x, VClock.get_resetRemove s.n.inner c x⟩

theorem pncounter_halves (s : PNCounter α) (c : VClock α) :
    (s.resetRemove c).p = s.p.resetRemove c ∧ (s.resetRemove c).n = s.n.resetRemove c := ⟨rfl, rfl⟩

theorem pncounter_empty (s : PNCounter α) : s.resetRemove ∅ = s := by
  cases s with | mk p n => cases p; cases n; rfl

/-- a clock covering both halves (e.g. the join of the two inner clocks) resets the counter: `read = 0` -/
theorem pncounter_covered {s : PNCounter α} (wf : PNWF s) {c : VClock α} (hp : s.p.inner.le c) (hn : s.n.inner.le c) :
    s.resetRemove c = PNCounter.init ∧ (s.resetRemove c).read = 0 := by
  have : s.resetRemove c = PNCounter.init :=
    PNCounter.ext (VClock.resetRemove_of_le wf.1 hp) (VClock.resetRemove_of_le wf.2 hn)
  exact ⟨this, by rewrite [this]; rfl⟩

theorem pncounter_self {s : PNCounter α} (wf : PNWF s) :
    s.resetRemove (s.p.inner.merge s.n.inner) = PNCounter.init ∧ (s.resetRemove (s.p.inner.merge s.n.inner)).read = 0 :=
  pncounter_covered wf (fun x => by rewrite [VClock.get_merge]; exact Nat.le_max_left ..)
    (fun x => by rewrite [VClock.get_merge]; exact Nat.le_max_right ..)

theorem pncounter_read (s : PNCounter α) (c : VClock α) :
    (s.resetRemove c).read = ((s.p.resetRemove c).read : Int) - ((s.n.resetRemove c).read : Int) := rfl

theorem pncounter_compose {s : PNCounter α} (wf : PNWF s) (c1 c2 : VClock α) :
    (s.resetRemove c1).resetRemove c2 = s.resetRemove (c1.merge c2) :=
  PNCounter.ext (VClock.resetRemove_resetRemove wf.1 c1 c2) (VClock.resetRemove_resetRemove wf.2 c1 c2)

theorem pncounter_idem (s : PNCounter α) (c : VClock α) : (s.resetRemove c).resetRemove c = s.resetRemove c :=
  PNCounter.ext (VClock.resetRemove_idem s.p.inner c) (VClock.resetRemove_idem s.n.inner c)

theorem pncounter_wf {s : PNCounter α} (wf : PNWF s) (c : VClock α) : PNWF (s.resetRemove c) :=
  ⟨VClock.noZero_resetRemove wf.1 c, VClock.noZero_resetRemove wf.2 c⟩

theorem pncounter_reach_wf {U K : List (PNOp α)} {s : PNCounter α} (h : pncounterSys.Reach U s K) : PNWF s :=
  let r := (RepSys.reach_rep (R := pncounterSys) trivial h).2
  ⟨r.1.1, r.2.1⟩

end pncounter

/-! ## MVReg (src/mvreg.rs:90-102) -/
section mvreg
variable {ν α : Type} [LinOrd α]
open MVReg

/-- every derivable register over a log without stored zeros satisfies the invariant: stored clocks are zero-free and
non-empty -/
theorem mvreg_reach_wf {U K : List (MVOp ν α)} {s : MVReg ν α} (wf : MVWF U) (h : mvregSys.Reach U s K) : ValsWF s := by
  have r := RepSysE.reach_rep (R := mvregSys) wf h
  intro p hp
  have hm : Maximal K p.1 p.2 := (r.2.2 p.1 p.2).mp hp
  exact ⟨wf.1 _ (r.1 _ hm.1), hm.2.1⟩

/-- **survivors**: exactly the entries whose clock is not `≤ c` (Rust: `!(c >= clock)`), in the same order,
each keeping its value and `clock − c` -/
theorem mvreg_survivors {s : MVReg ν α} (wf : ValsWF s) (c : VClock α) :
    (s.resetRemove c).vals = (s.vals.filter (fun p => !(c.ge p.1))).map (fun p => (p.1.resetRemove c, p.2)) := by
  rewrite [resetRemove_vals, ← List.filterMap_eq_map', List.filterMap_filter]
  exact List.filterMap_congr fun p hp => by rewrite [rrStep_eq (wf p hp).1 c]; cases c.ge p.1 <;> rfl

/-- membership form, with the pointwise order -/
theorem mvreg_mem {s : MVReg ν α} (wf : ValsWF s) (c : VClock α) (q : VClock α × ν) :
    q ∈ (s.resetRemove c).vals ↔ ∃ p ∈ s.vals, ¬ p.1.le c ∧ q = (p.1.resetRemove c, p.2) := mem_resetRemove wf c q

/-- the surviving clock, pointwise -/
theorem mvreg_survivor_clock (d c : VClock α) (x : α) :
    (d.resetRemove c).get x = if d.get x > c.get x then d.get x else 0 := VClock.get_resetRemove d c x

/-- values read afterwards: those of the entries not covered by `c`, in `Vec` order -/
theorem mvreg_read {s : MVReg ν α} (wf : ValsWF s) (c : VClock α) :
    (s.resetRemove c).read.val = (s.vals.filter (fun p => !(c.ge p.1))).map (·.2) := by
  show (s.resetRemove c).vals.map (·.2) = _
  rewrite [mvreg_survivors wf c, List.map_map]; rfl

theorem mvreg_empty {s : MVReg ν α} (wf : ValsWF s) : s.resetRemove ∅ = s := resetRemove_empty wf

/-- the clock returned by `read()` empties the register -/
theorem mvreg_read_clock {s : MVReg ν α} (wf : ValsWF s) : s.resetRemove s.read.addClock = MVReg.init :=
  resetRemove_of_covers wf (fun _ hp => MVReg.le_clock s hp)

theorem mvreg_covered {s : MVReg ν α} (wf : ValsWF s) {c : VClock α} (h : ∀ p ∈ s.vals, p.1.le c) :
    s.resetRemove c = MVReg.init := resetRemove_of_covers wf h

theorem mvreg_compose {s : MVReg ν α} (wf : ValsWF s) (c1 c2 : VClock α) :
    (s.resetRemove c1).resetRemove c2 = s.resetRemove (c1.merge c2) := resetRemove_comp (VClock.rrComp_merge c1 c2) wf

theorem mvreg_idem {s : MVReg ν α} (wf : ValsWF s) (c : VClock α) :
    (s.resetRemove c).resetRemove c = s.resetRemove c := resetRemove_comp (VClock.rrComp_idem c) wf

theorem mvreg_wf {s : MVReg ν α} (wf : ValsWF s) (c : VClock α) : ValsWF (s.resetRemove c) := valsWF_resetRemove wf c

end mvreg

/-! ## Orswot (src/orswot.rs:202-227, after fix c462df9) -/
section orswot
variable {M A : Type} [LinOrd M] [LinOrd A]
open Orswot OrswotSpec

/-- every derivable set satisfies the structural invariant: zero-free replica clock, zero-free non-empty witness clocks,
zero-free non-empty pending contexts -/
theorem orswot_reach_wf {U K : List (OrswotOp M A)} {s : Orswot M A} (wf : LogWF U) (h : orswotSys.Reach U s K) :
    StateWF s :=
  have r := RepSys.reach_rep (R := orswotSys) wf h
  stateWF_of_rep wf r.1 r.2

/-- … and its witnesses are below its clock -/
theorem orswot_reach_le {U K : List (OrswotOp M A)} {s : Orswot M A} (wf : LogWF U) (h : orswotSys.Reach U s K)
    (m : M) (a : A) : entryGet s.entries m a ≤ s.clock.get a := (C04.rep wf h).entry_le_clock m a

/-- replica clock: pointwise subtraction (all states) -/
theorem orswot_clock (s : Orswot M A) (c : VClock A) (a : A) :
    (s.resetRemove c).clock.get a = if s.clock.get a > c.get a then s.clock.get a else 0 :=
  VClock.get_resetRemove s.clock c a

/-- surviving witnesses: `e` if `e > c[a]`, else gone (all states) -/
theorem orswot_witness (s : Orswot M A) (c : VClock A) (m : M) (a : A) :
    entryGet (s.resetRemove c).entries m a =
      if entryGet s.entries m a > c.get a then entryGet s.entries m a else 0 := entryGet_resetRemove s c m a

/-- a member survives iff some witness exceeds `c` -/
theorem orswot_member_iff {s : Orswot M A} (wf : StateWF s) (c : VClock A) (m : M) :
    ((s.resetRemove c).entries.get? m).isSome = true ↔ ∃ a, entryGet s.entries m a > c.get a := by
  rewrite [present_iff_entryGet (entriesWF_resetRemove wf.ewf c)]
  simp only [entryGet_resetRemove]
  -- the surviving witness is `Ev` of the old one
  exact exists_congr fun a => OrswotSpec.Ev_pos (e := entryGet s.entries m a)

/-- the same for `read()` -/
theorem orswot_read_iff {s : Orswot M A} (wf : StateWF s) (c : VClock A) (m : M) :
    m ∈ (s.resetRemove c).read.val ↔ ∃ a, entryGet s.entries m a > c.get a := by
  rewrite [mem_read_val_iff]; exact orswot_member_iff wf c m

/-- **pending removes, contexts**: the contexts afterwards are exactly the non-empty differences `d − c` (all states) -/
theorem orswot_deferred_contexts (s : Orswot M A) (c k : VClock A) :
    ((s.resetRemove c).deferred.get? k).isSome = true ↔
      ∃ d, (s.deferred.get? d).isSome = true ∧ d.resetRemove c = k ∧ k.isEmpty = false :=
  (dKey_rr s c k).trans (exists_congr fun _ => and_congr_right fun _ => VClock.rrClock_eq_some_iff)

/-- **pending removes, members**: under context `k` exactly the UNION of the member sets of all old contexts `d` with
`d − c = k` is pending (all states) – contexts that collide after subtraction are united, none is lost (fix c462df9) -/
theorem orswot_deferred_members (s : Orswot M A) (c k : VClock A) (m : M) :
    (∃ T, (s.resetRemove c).deferred.get? k = some T ∧ T.contains m = true) ↔
      ∃ d, (∃ S, s.deferred.get? d = some S ∧ S.contains m = true) ∧ d.resetRemove c = k ∧ k.isEmpty = false :=
  dMem_resetRemove s c k m

/-- a pending remove stays iff its context is not `≤ c` – under the subtracted context, with all its members -/
theorem orswot_pending_survives {s : Orswot M A} (wf : StateWF s) (c d : VClock A) (S : FSet M)
    (hd : s.deferred.get? d = some S) :
    (¬ d.le c → ∃ T, (s.resetRemove c).deferred.get? (d.resetRemove c) = some T ∧ ∀ m, S.contains m = true → T.contains m = true) ∧
    (d.le c → d.resetRemove c = ∅ ∧ (s.resetRemove c).deferred.get? ∅ = none) := by
  have hk : DKey s.deferred d := dKey_of_get? hd
  have nz : d.NoZero := (wf.dwf d hk).1
  constructor
  · intro hn
    have hr : VClock.rrClock c d = some (d.resetRemove c) :=
      VClock.rrClock_eq_some_iff.mpr ⟨rfl, Bool.eq_false_iff.mpr (mt (VClock.isEmpty_resetRemove_iff nz c).mp hn)⟩
    obtain ⟨T, hT⟩ := Option.isSome_iff_exists.mp ((dKey_rr s c _).mpr ⟨d, hk, hr⟩)
    refine ⟨T, hT, fun m hm => ?_⟩
    obtain ⟨T', hT', hm'⟩ := (dMem_rr s c _ m).mpr ⟨d, ⟨S, hd, hm⟩, hr⟩
    rewrite [hT] at hT'; cases hT'; exact hm'
  · intro hle
    refine ⟨VClock.resetRemove_of_le nz hle, Option.not_isSome_iff_eq_none.mp fun hs => ?_⟩
    obtain ⟨_, _, e⟩ := (dKey_rr s c ∅).mp hs
    exact absurd (VClock.rrClock_some e).2 (by simp [VClock.isEmpty_empty])

theorem orswot_empty {s : Orswot M A} (wf : StateWF s) : s.resetRemove ∅ = s := Orswot.resetRemove_empty wf

/-- **own clock**: subtracting the replica's own clock empties the clock, the entries and hence every read
(witnesses are below the clock on reachable states: `orswot_reach_le`); pending removes (whose contexts are by
definition not below the clock) stay, under the subtracted context (`orswot_pending_survives`) -/
theorem orswot_own_clock {s : Orswot M A} (wf : StateWF s) (hle : ∀ m a, entryGet s.entries m a ≤ s.clock.get a) :
    (s.resetRemove s.clock).clock = ∅ ∧ (s.resetRemove s.clock).entries = ∅ ∧ (s.resetRemove s.clock).read.val = [] := by
  have he := entries_resetRemove_of_covers wf.ewf hle
  refine ⟨VClock.resetRemove_self s.clock, he, ?_⟩
  simp only [Orswot.read, he]; rfl

/-- … and with no pending remove the result is the initial state -/
theorem orswot_own_clock_init {s : Orswot M A} (wf : StateWF s) (hle : ∀ m a, entryGet s.entries m a ≤ s.clock.get a)
    (hd : s.deferred = ∅) : s.resetRemove s.clock = Orswot.init :=
  resetRemove_of_covers wf (VClock.le_refl _) hle (fun k hk => by rewrite [hd] at hk; exact absurd hk (dKey_empty k))

/-- any clock covering the replica clock, the witnesses and the pending contexts resets the set -/
theorem orswot_covered {s : Orswot M A} (wf : StateWF s) {c : VClock A} (hc : s.clock.le c)
    (he : ∀ m a, entryGet s.entries m a ≤ c.get a) (hd : ∀ k, (s.deferred.get? k).isSome = true → k.le c) :
    s.resetRemove c = Orswot.init := resetRemove_of_covers wf hc he hd

/-- `c1` then `c2` = the join, as an equality of whole states (clock, entries, deferred) -/
theorem orswot_compose {s : Orswot M A} (wf : StateWF s) (c1 c2 : VClock A) :
    (s.resetRemove c1).resetRemove c2 = s.resetRemove (c1.merge c2) :=
  Orswot.resetRemove_comp (VClock.rrComp_merge c1 c2) wf

theorem orswot_idem {s : Orswot M A} (wf : StateWF s) (c : VClock A) :
    (s.resetRemove c).resetRemove c = s.resetRemove c := Orswot.resetRemove_comp (VClock.rrComp_idem c) wf

theorem orswot_commute {s : Orswot M A} (wf : StateWF s) (c1 c2 : VClock A) :
    (s.resetRemove c1).resetRemove c2 = (s.resetRemove c2).resetRemove c1 := Orswot.resetRemove_comm s c1 c2

theorem orswot_wf {s : Orswot M A} (wf : StateWF s) (c : VClock A) : StateWF (s.resetRemove c) :=
  stateWF_resetRemove wf c

end orswot

/-! ## non-vacuity: concrete states meeting the hypotheses, clocks below / above / concurrent -/
def exClock : VClock Nat := (∅ : VClock Nat).apply ⟨0, 3⟩ |>.apply ⟨1, 2⟩
example : exClock.NoZero := VClock.noZero_apply (VClock.noZero_apply VClock.noZero_empty _) _
-- concurrent clock: forgets actor 1 (2 ≤ 5), keeps actor 0 (3 > 1)
example : (exClock.resetRemove ((∅ : VClock Nat).apply ⟨0, 1⟩ |>.apply ⟨1, 5⟩)).dots.l = [(0, 3)] := by decide

def exC5 : VClock Nat := (∅ : VClock Nat).apply ⟨0, 5⟩ |>.apply ⟨1, 1⟩
def exC6 : VClock Nat := (∅ : VClock Nat).apply ⟨0, 6⟩ |>.apply ⟨1, 1⟩
/-- an Orswot with two pending removes whose contexts collide after subtracting `{0:7}` -/
def exSet : Orswot Nat Nat :=
  ((Orswot.init.apply (.add ⟨2, 1⟩ [9])).apply (.rm exC5 [3])).apply (.rm exC6 [4])
def exU : List (OrswotOp Nat Nat) := [.add ⟨2, 1⟩ [9], .rm exC5 [3], .rm exC6 [4]]
example : OrswotSpec.LogWF exU := .of_nodup (by decide) (by decide)
/-- `exSet` is a derivable state of that log (so `orswot_reach_wf` applies to it) -/
example : ∃ K, (orswotSys (M := Nat) (A := Nat)).Reach exU exSet K := by
  have h := RepSys.Reach.init (R := orswotSys (M := Nat) (A := Nat)) (U := exU)
    |>.apply (op := OrswotOp.add ⟨2, 1⟩ [9]) (by decide) (OrswotSpec.predsIn_one (by decide) 2)
    |>.apply (op := OrswotOp.rm exC5 [3]) (by decide) trivial
    |>.apply (op := OrswotOp.rm exC6 [4]) (by decide) trivial
  -- `orswotSys.apply` is `Orswot.apply`: said here, the unifier need not evaluate the model to match `exSet`
  dsimp only [orswotSys] at h
  exact ⟨_, h⟩
example : exSet.deferred.l.length = 2 := by decide +kernel
example : ((exSet.resetRemove ((∅ : VClock Nat).apply ⟨0, 7⟩)).deferred.l.map (fun p => (p.1.dots.l, p.2.l.map (·.1)))) =
    [([(1, 1)], [3, 4])] := by decide +kernel
example : (exSet.resetRemove exSet.clock).read.val = [] ∧ (exSet.resetRemove ∅) = exSet := by decide +kernel

end Crdt.C18
