import CrdtModel.Spec.ListSys
/-!
# C12 — List: causal delivery yields one global element order at every replica

`listSys.Reach U s K` (`Spec/OpRepSys.lean`, `Spec/ListSys.lean`) ranges over every state `s` that any replica can hold
at any time in any history over the op log `U` – any number of actors, inserts/appends/deletes at any indices, any
delivery schedule (with duplicates) that respects the discipline `ListSpec.Ok`:
  *an op is delivered after all ops of the log by the same actor with a smaller dot counter, and a `Delete` after an
  `Insert` of the identifier it targets*;
`K` is the list of ops delivered so far.  `ListSpec.LogWF U`: every op carries a dot with a positive counter and no two
ops carry the same dot (for an insert the dot is the LAST marker of its identifier).  Both hold of what the crate produces:
every causal schedule satisfies the discipline (`causal_schedule_ok`), and logs built through `insert_index` / `append` /
`delete_index` are well-formed (`gen_insert`, `gen_delete`).  The identifier order is the `LinOrd (Identifier _)` instance
of `Model/Identifier.lean` (its laws: C14); the representation relation is in `Spec/ListRep.lean`.  The requirement
"causal" is real: `Witness/ListNeedsCausal.lean`.
-/
namespace Crdt.C12
open LinOrd ListSpec ListCrdt
open OpRepSys (reach_rep converge dup_noop reach_sub Reach)
variable {τ A : Type} [LinOrd A] {U K K' : List (ListOp τ A)} {s s' : ListCrdt τ A}

-- `ListSpec.Inv` by its full name: the bare `Inv` is also core's class, and that reading is tried (and fails) first
theorem inv (wf : LogWF U) (h : listSys.Reach U s K) : ListSpec.Inv U K := (reach_rep (R := listSys) wf h).1

/-- **representation theorem**: a derivable state holds exactly the live elements of its knowledge and its clock is
per actor the largest delivered counter … -/
theorem rep (wf : LogWF U) (h : listSys.Reach U s K) : Rep K s := (reach_rep (R := listSys) wf h).2

/-- … in closed form: the state IS the executable specification `specState K` (the oracle printed by the driver) -/
theorem state_eq_spec (wf : LogWF U) (h : listSys.Reach U s K) : s = specState K :=
  eq_specState wf (inv wf h).sub (rep wf h)

/-- `apply` does not panic along a derivation (ops of a well-formed log carry a dot) -/
theorem apply_defined (wf : LogWF U) {op : ListOp τ A} (hu : op ∈ U) (s : ListCrdt τ A) :
    s.apply? op = some (listSys.apply s op) := by
  obtain ⟨d, hd, _⟩ := wf.dot_pos op hu
  have e := apply?_of_dot s hd
  exact e.trans (congrArg some (apply_of_apply? e).symm)

/-- **`read` is the list of live inserts sorted by identifier**: the stored entries are strictly increasing in the
identifier order and are exactly the live elements (inserted, not deleted) of `K`; any strictly sorted list of exactly
the live elements is the same list; the executable specification gives the same read. -/
theorem read_eq_sorted_live (wf : LogWF U) (h : listSys.Reach U s K) :
    s.keys.Pairwise (· < ·) ∧
    (∀ id v, (id, v) ∈ s.iterEntries ↔ Live K id v) ∧
    s.keys = s.iterEntries.map (·.1) ∧ s.read = s.iterEntries.map (·.2) ∧
    (∀ l : List (Identifier (OrdDot A) × τ), l.Pairwise (fun p q => p.1 < q.1) → (∀ id v, (id, v) ∈ l ↔ Live K id v) →
      s.iterEntries = l ∧ s.read = l.map (·.2)) ∧
    s.read = (specSeq K).l.map (·.2) := by
  have r := rep wf h
  have hm : ∀ id v, (id, v) ∈ s.iterEntries ↔ Live K id v := fun id v => by rw [mem_entries_iff, r.seq]
  refine ⟨s.keys_sorted, hm, rfl, rfl, fun l hl hlm => ?_, ?_⟩
  · obtain rfl : s.iterEntries = l := AL.ext_of_mem s.seq.sorted hl fun (id, v) => by rw [hm, hlm]
    exact ⟨rfl, rfl⟩
  · rewrite [state_eq_spec wf h]; rfl

theorem keys_eq_live (wf : LogWF U) (h : listSys.Reach U s K) (id : Identifier (OrdDot A)) :
    id ∈ s.keys ↔ ∃ v, Live K id v := by
  rewrite [mem_keys_iff]; simp only [(rep wf h).seq]

/-- **one global order**: there is ONE strict total order on identifiers, fixed once and for all (it is `Ord for
Identifier`, `Model/Identifier.lean`) – independent of the history, the replica and the time – such that the sequence of every derivable
state is the restriction of that order to the elements live at that state. -/
theorem global_order : ∃ lt : Identifier (OrdDot A) → Identifier (OrdDot A) → Prop,
    (∀ a, ¬ lt a a) ∧ (∀ a b c, lt a b → lt b c → lt a c) ∧ (∀ a b, lt a b ∨ a = b ∨ lt b a) ∧
    (∀ a b, lt a b ↔ Identifier.cmp a b = .lt) ∧
    ∀ (τ : Type) (U K : List (ListOp τ A)) (s : ListCrdt τ A), LogWF U → listSys.Reach U s K →
      s.keys.Pairwise lt ∧ ∀ id, id ∈ s.keys ↔ ∃ v, Live K id v :=
  ⟨(· < ·), lt_irrefl, fun _ _ _ => lt_trans, lt_tri, fun _ _ => Iff.rfl,
   fun _ _ _ s wf h => ⟨s.keys_sorted, keys_eq_live wf h⟩⟩

/-- **convergence**: replicas that have been delivered the same set of ops (in whatever admissible orders, with
whatever duplicates) hold the same state, hence read the same sequence -/
theorem same_ops_same_sequence (wf : LogWF U) (h : listSys.Reach U s K) (h' : listSys.Reach U s' K')
    (e : ∀ o, o ∈ K ↔ o ∈ K') : s = s' ∧ s.read = s'.read ∧ s.iterEntries = s'.iterEntries := by
  have := converge (R := listSys) wf h h' e
  subst this; exact ⟨rfl, rfl, rfl⟩

/-- holds of ANY two states, however obtained: sortedness of `keys` is part of the type of states -/
theorem relative_order_stable_any (s s' : ListCrdt τ A) {id₁ id₂ : Identifier (OrdDot A)} {i j i' j' : Nat}
    (p1 : s.positionEntry id₁ = some i) (p2 : s.positionEntry id₂ = some j)
    (q1 : s'.positionEntry id₁ = some i') (q2 : s'.positionEntry id₂ = some j') :
    (i < j ↔ i' < j') ∧ (i < j ↔ id₁ < id₂) := by
  rewrite [positionEntry_eq_some_iff] at p1 p2 q1 q2
  rewrite [sorted_idx_lt_iff s.keys_sorted p1 p2, sorted_idx_lt_iff s'.keys_sorted q1 q2]
  exact ⟨Iff.rfl, Iff.rfl⟩

theorem position_value (wf : LogWF U) (h : listSys.Reach U s K) {id : Identifier (OrdDot A)} {i : Nat}
    (p : s.positionEntry id = some i) : ∃ v, s.position i = some v ∧ ListOp.insert id v ∈ K := by
  rewrite [positionEntry_eq_some_iff, getElem?_keys, Option.map_eq_some_iff] at p
  obtain ⟨⟨_, v⟩, hp, rfl⟩ := p
  exact ⟨v, by rewrite [position_eq, hp]; rfl,
    (((rep wf h).seq _ v).mp ((mem_entries_iff s _ v).mp (List.mem_of_getElem? hp))).1⟩

/-- **relative order never changes**: two elements (identifiers) that are both present in two derivable states –
any replicas, any times – appear in the same relative order in both, and each of them shows the same value in both
(it is the same insert op: an identifier names one element of the history). -/
theorem relative_order_stable (wf : LogWF U) (h : listSys.Reach U s K) (h' : listSys.Reach U s' K')
    {id₁ id₂ : Identifier (OrdDot A)} {i j i' j' : Nat}
    (p1 : s.positionEntry id₁ = some i) (p2 : s.positionEntry id₂ = some j)
    (q1 : s'.positionEntry id₁ = some i') (q2 : s'.positionEntry id₂ = some j') :
    (i < j ↔ i' < j') ∧ s.position i = s'.position i' ∧ s.position j = s'.position j' := by
  have val : ∀ {id i i'}, s.positionEntry id = some i → s'.positionEntry id = some i' →
      s.position i = s'.position i' := fun p q => by
    obtain ⟨v, hv, hk⟩ := position_value wf h p
    obtain ⟨v', hv', hk'⟩ := position_value wf h' q
    rw [hv, hv', insert_same_id wf (reach_sub h _ hk) (reach_sub h' _ hk')]
  exact ⟨(relative_order_stable_any s s' p1 p2 q1 q2).1, val p1 q1, val p2 q2⟩

/-- **each element appears at most once**: no identifier is stored twice, distinct inserts of the log carry distinct
identifiers (so an entry belongs to exactly one insert op), and an identifier sits at one position only -/
theorem no_duplicates (wf : LogWF U) (s : ListCrdt τ A) :
    s.keys.Nodup ∧ s.iterEntries.Nodup ∧
    (∀ (i j : Nat) id, s.keys[i]? = some id → s.keys[j]? = some id → i = j) ∧
    (∀ id v id' v', ListOp.insert id v ∈ U → ListOp.insert id' v' ∈ U → (ListOp.insert id v : ListOp τ A) ≠ .insert id' v' →
      id ≠ id') := by
  have nd : s.keys.Nodup := s.keys_sorted.imp ne_of_lt
  refine ⟨nd, entries_nodup s, fun i j id hi hj =>
    (List.getElem?_inj (List.getElem?_eq_some_iff.mp hi).1 nd).mp (hi.trans hj.symm), ?_⟩
  intro id v id' v' hu hu' hne e
  subst e
  exact hne (by rw [insert_same_id wf hu hu'])

theorem entry_is_unique_insert (wf : LogWF U) (h : listSys.Reach U s K) {id : Identifier (OrdDot A)} {v : τ}
    (hm : (id, v) ∈ s.iterEntries) : ListOp.insert id v ∈ U ∧ ∀ v', ListOp.insert id v' ∈ U → v' = v := by
  have l := ((read_eq_sorted_live wf h).2.1 id v).mp hm
  have hu := (inv wf h).sub _ l.1
  exact ⟨hu, fun v' hu' => insert_same_id wf hu' hu⟩

/-- **re-delivery of a known op is a no-op** -/
theorem duplicate_absorbed (wf : LogWF U) (h : listSys.Reach U s K) {op : ListOp τ A} (hk : op ∈ K) :
    s.apply op = s := dup_noop (R := listSys) wf h (reach_sub h op hk) hk

/-- … because the dot gate of `apply` decides membership -/
theorem gated_iff_known (wf : LogWF U) (h : listSys.Reach U s K) {op : ListOp τ A} (hu : op ∈ U) {d : Dot A}
    (hd : op.dot = some d) : d.counter ≤ s.clock.get d.actor ↔ op ∈ K := by
  rewrite [(rep wf h).clock]
  exact ⟨mem_of_gated wf (inv wf h) hu hd, fun hk => le_clk hk hd⟩

/-- if the receiver knows everything the author knew when it generated the op (`deps`), the author knew all of its own
earlier ops, and – for a delete – the author knew the insert of the identifier it deletes, then the op may be applied -/
theorem causal_implies_ok {op : ListOp τ A} {deps : List (ListOp τ A)}
    (own_earlier : PredsIn U deps op) (target_known : TargetIn deps op)
    (causal : ∀ o ∈ deps, o ∈ K) : Ok U K op :=
  ok_mono causal ⟨own_earlier, target_known⟩

/-! ## generation through the API -/

section
variable {op : ListOp τ A} {a : A} {n : Nat}

theorem fresh_dot_wf (wf : LogWF U) (hd : op.dot = some ⟨a, n⟩) (hn : clk U a < n) : op ∉ U ∧ LogWF (op :: U) := by
  have ne : ∀ o ∈ U, o.dot ≠ op.dot := fun o ho e => Nat.lt_irrefl n (Nat.lt_of_le_of_lt (le_clk ho (e.trans hd)) hn)
  refine ⟨fun hu => ne op hu rfl, ?dot_pos, ?dot_unique⟩
  case dot_pos => exact List.forall_mem_cons.mpr ⟨⟨_, hd, Nat.zero_lt_of_lt hn⟩, wf.dot_pos⟩
  case dot_unique =>
    intro o ho o' ho' e
    rcases List.mem_cons.mp ho with rfl | hu <;> rcases List.mem_cons.mp ho' with rfl | hu'
    · rfl
    · exact absurd e.symm (ne o' hu')
    · exact absurd e (ne o hu)
    · exact wf.dot_unique o hu o' hu' e

/-- `PredsIn` ranges over the whole log, but an op newer than every op of its actor is nobody's predecessor -/
theorem predsIn_cons {o : ListOp τ A} (hd : op.dot = some ⟨a, n⟩) (hn : clk U a < n) (hu : o ∈ U)
    (p : PredsIn U K o) : PredsIn (op :: U) K o :=
  List.forall_mem_cons.mpr ⟨fun d d' e1 e2 ha hc => by
    cases hd.symm.trans e2
    exact absurd (Nat.lt_of_le_of_lt (le_clk hu e1) (ha ▸ hn)) (Nat.lt_asymm hc), p⟩

theorem reach_extend (hd : op.dot = some ⟨a, n⟩) (hn : clk U a < n) (h : listSys.Reach U s K) :
    listSys.Reach (op :: U) s K := by
  induction h with
  | init => exact Reach.init
  | apply _ hu hok ih => exact Reach.apply ih (List.mem_cons_of_mem _ hu) ⟨predsIn_cons hd hn hu hok.1, hok.2⟩

end

theorem inc_eq (wf : LogWF U) (h : listSys.Reach U s K) (a : A) : s.clock.inc a = ⟨a, clk K a + 1⟩ := by
  rewrite [← (rep wf h).clock]; rfl

/-- `own`: the replica knows all of `a`'s ops (each actor edits at one replica and applies its ops as it goes), so the
dot it derives for `a` is above every dot of `a` in the log.  In the system model `own` is not an assumption but a field
of the invariant `SysList.SysInv` (`Proofs/SysList.lean`). -/
theorem clk_eq_of_own (h : listSys.Reach U s K) {a : A} (own : ∀ o ∈ U, ∀ d, o.dot = some d → d.actor = a → o ∈ K) :
    clk K a = clk U a := by
  refine Nat.le_antisymm (listMax_mono _ (reach_sub h)) ?_
  rcases Nat.eq_zero_or_pos (clk U a) with e | pos
  · rewrite [e]; exact Nat.zero_le _
  · obtain ⟨o, ho, d, hd, ha, hc⟩ := clk_attained pos
    rewrite [← hc, ← ha]
    exact le_clk (own o ho d hd ha) hd

/-- all that the generation lemmas use of an op the API builds for actor `a` at a state `s` whose replica knows `K` -/
def GenOk (s : ListCrdt τ A) (K : List (ListOp τ A)) (a : A) (op : ListOp τ A) : Prop :=
  op.dot = some (s.clock.inc a) ∧ TargetIn K op

theorem genOk_insertIndex (s : ListCrdt τ A) (K : List (ListOp τ A)) (ix : Nat) (x : τ) (a : A) :
    GenOk s K a (s.insertIndex ix x a) :=
  ⟨insertIndex_dot s ix x a, by rewrite [insertIndex_eq]; trivial⟩

theorem genOk_deleteIndex (wf : LogWF U) (h : listSys.Reach U s K) {ix : Nat} {a : A} {op : ListOp τ A}
    (hg : s.deleteIndex ix a = some op) : GenOk s K a op := by
  obtain ⟨id, hk, rfl⟩ := deleteIndex_eq_some_iff.mp hg
  exact ⟨rfl, ((keys_eq_live wf h id).mp (List.mem_of_getElem? hk)).imp fun _ l => l.1⟩

/-- What the generation lemmas and `SysList.SysInv` rest on.  `own` gives `clk K a = clk U a`, so the next dot is fresh in
the whole log; the last clause carries the states derived so far (the other replicas) over to the extended log. -/
theorem gen_op (wf : LogWF U) (h : listSys.Reach U s K) (a : A)
    (own : ∀ o ∈ U, ∀ d, o.dot = some d → d.actor = a → o ∈ K) {op : ListOp τ A} (g : GenOk s K a op) :
    op.dot = some ⟨a, clk K a + 1⟩ ∧ op ∉ U ∧ LogWF (op :: U) ∧ Ok (op :: U) K op ∧
    (∀ s₁ K₁, listSys.Reach U s₁ K₁ → listSys.Reach (op :: U) s₁ K₁) := by
  have hd := g.1.trans (congrArg some (inc_eq wf h a))
  have hn : clk U a < clk K a + 1 := Nat.lt_succ_of_le (Nat.le_of_eq (clk_eq_of_own h own).symm)
  obtain ⟨hnew, wf'⟩ := fresh_dot_wf wf hd hn
  refine ⟨hd, hnew, wf', ⟨List.forall_mem_cons.mpr ⟨fun d d' e1 e2 _ hc => ?_, fun o ho d d' e1 e2 ha _ => ?_⟩, g.2⟩,
    fun _ _ => reach_extend hd hn⟩
  · -- the op itself is not among its predecessors
    cases e1.symm.trans e2
    exact absurd hc (Nat.lt_irrefl _)
  · -- the older ops of `a` are known by `own`
    cases hd.symm.trans e1
    exact own o ho d' e2 ha

/-- **generation lemma, insert**: the op built by `insert_index` (hence `append`) at a derivable state whose replica
knows all ops of its actor carries the actor's next dot, is new, keeps the log well-formed – in particular its
identifier differs from the identifier of every insert of the whole log, delivered here or not – may be applied at
once, and everything derivable before remains derivable over the extended log -/
theorem gen_insert (wf : LogWF U) (h : listSys.Reach U s K) (ix : Nat) (x : τ) (a : A)
    (own : ∀ o ∈ U, ∀ d, o.dot = some d → d.actor = a → o ∈ K) :
    let op := s.insertIndex ix x a
    op.dot = some ⟨a, clk K a + 1⟩ ∧ op ∉ U ∧ LogWF (op :: U) ∧
    (∀ id v, ListOp.insert id v ∈ U → id ≠ op.id) ∧
    Ok (op :: U) K op ∧
    (∀ s₁ K₁, listSys.Reach U s₁ K₁ → listSys.Reach (op :: U) s₁ K₁) := by
  have g := genOk_insertIndex s K ix x a
  rewrite [insertIndex_eq] at g ⊢
  obtain ⟨hd, hnew, wf', hok, hext⟩ := gen_op wf h a own g
  refine ⟨hd, hnew, wf', fun id v hu e => hnew ?_, hok, hext⟩
  -- an insert of the log with the same identifier would be this op
  cases e
  exact insert_same_id wf' (List.mem_cons_of_mem _ hu) List.mem_cons_self ▸ hu

theorem gen_append (wf : LogWF U) (h : listSys.Reach U s K) (x : τ) (a : A)
    (own : ∀ o ∈ U, ∀ d, o.dot = some d → d.actor = a → o ∈ K) :
    let op := s.append x a
    op.dot = some ⟨a, clk K a + 1⟩ ∧ op ∉ U ∧ LogWF (op :: U) ∧
    (∀ id v, ListOp.insert id v ∈ U → id ≠ op.id) ∧
    Ok (op :: U) K op ∧
    (∀ s₁ K₁, listSys.Reach U s₁ K₁ → listSys.Reach (op :: U) s₁ K₁) := gen_insert wf h s.len x a own

/-- **generation lemma, delete**: `delete_index` picks a stored identifier – so the insert it targets is known to the
author (the cross-actor causal dependency of the discipline) –, carries the actor's next dot, is new, keeps the log
well-formed and may be applied at once -/
theorem gen_delete (wf : LogWF U) (h : listSys.Reach U s K) (ix : Nat) (a : A) {op : ListOp τ A}
    (hg : s.deleteIndex ix a = some op)
    (own : ∀ o ∈ U, ∀ d, o.dot = some d → d.actor = a → o ∈ K) :
    (∃ id, s.keys[ix]? = some id ∧ op = .delete id ⟨a, clk K a + 1⟩ ∧ ∃ v, ListOp.insert id v ∈ K) ∧
    op ∉ U ∧ LogWF (op :: U) ∧ Ok (op :: U) K op ∧
    (∀ s₁ K₁, listSys.Reach U s₁ K₁ → listSys.Reach (op :: U) s₁ K₁) := by
  have g := genOk_deleteIndex wf h hg
  obtain ⟨id, hk, rfl⟩ := deleteIndex_eq_some_iff.mp hg
  obtain ⟨hd, hnew, wf', hok, hext⟩ := gen_op wf h a own g
  exact ⟨⟨id, hk, congrArg _ (Option.some.inj hd), g.2⟩, hnew, wf', hok, hext⟩

/-- **causal delivery satisfies the discipline**: let the author (actor `a`) generate an op through the API at a
derivable state `sA` with knowledge `KA` that contains all of `a`'s ops up to its clock (an actor applies its own ops
as it generates them).  Any replica whose knowledge `K` includes `KA` – what causal delivery guarantees: everything
the author had seen has been delivered before – may apply the op.  `U` is the whole history (it contains the op and
whatever is generated later). -/
theorem causal_schedule_ok (wf : LogWF U) {sA : ListCrdt τ A} {KA : List (ListOp τ A)} (hA : listSys.Reach U sA KA) (a : A)
    (own_earlier : ∀ o ∈ U, ∀ d, o.dot = some d → d.actor = a → d.counter ≤ clk KA a → o ∈ KA)
    (causal : ∀ o ∈ KA, o ∈ K) :
    (∀ ix x, Ok U K (sA.insertIndex ix x a)) ∧ (∀ x, Ok U K (sA.append x a)) ∧
    (∀ ix op, sA.deleteIndex ix a = some op → Ok U K op) := by
  have ok : ∀ {op : ListOp τ A}, GenOk sA KA a op → Ok U K op := fun g =>
    causal_implies_ok (fun o ho d d' e1 e2 ha hc => by
      rewrite [g.1, inc_eq wf hA a] at e1; cases e1
      exact own_earlier o ho d' e2 ha (Nat.le_of_lt_succ hc)) g.2 causal
  exact ⟨fun ix x => ok (genOk_insertIndex sA KA ix x a), fun x => ok (genOk_insertIndex sA KA sA.len x a),
    fun ix op hg => ok (genOk_deleteIndex wf hA hg)⟩

end Crdt.C12

/-! ## non-vacuity (tests, not theorems) -/

-- a scope of its own: under the `variable`s and `open`s above the evaluations below cost more than twice as much
namespace Crdt.C12
open ListSpec

/-- actor 0 inserts `7`, actor 1 inserts `8` in front and deletes `7`; a well-formed log -/
def exLog : List (ListOp Nat Nat) :=
  [.insert ⟨[(0, (0, 1))]⟩ 7, .insert ⟨[(-1, (1, 1))]⟩ 8, .delete ⟨[(0, (0, 1))]⟩ ⟨1, 2⟩]

example : LogWF exLog := (wfB_iff _).mp (by decide +kernel)

/-- the three ops delivered in log order (the delete last): admissible, and the state reads `[8]` -/
example : ∃ s, listSys.Reach exLog s [exLog[2], exLog[1], exLog[0]] ∧ s.read = [8] :=
  ⟨_, .apply (.apply (.apply .init (List.getElem_mem _) ((okB_iff _ _ _).mp rfl)) (List.getElem_mem _)
    ((okB_iff _ _ _).mp rfl)) (List.getElem_mem _) ((okB_iff _ _ _).mp rfl), rfl⟩

/-- the delete is NOT admissible before the insert it targets -/
example : ¬ Ok exLog [] exLog[2] := by rintro ⟨_, _, hv⟩; cases hv
end Crdt.C12
