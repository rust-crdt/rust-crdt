import CrdtModel.Proofs.Identifier
/-!
# C14 — Identifiers form a strict total order that is dense and unique per insert

All statements quantify over ALL identifiers (any depth, any rationals, any lawfully ordered marker type).  `a < b` on
identifiers is *by definition* `cmp a b = .lt` (`lt_iff_cmp`), `cmp` being the model of `Ord for Identifier`
(src/identifier.rs:38-53).

Two findings shape the statements.  The EMPTY identifier is the greatest element: two-sided density needs no
non-emptiness hypothesis (`lo < hi` gives `lo ≠ []`), but the one-sided `lo < between (some lo) none m` is FALSE for
`lo = []`.  With equal bounds `between` returns the bound and does NOT attach the marker, so "the last marker is `m`"
and non-emptiness hold exactly when the two bounds are not the same identifier.
-/
namespace Crdt.C14
open Identifier
section laws
variable {τ : Type} [LinOrd τ]

theorem lt_iff_cmp {a b : Identifier τ} : a < b ↔ cmp a b = .lt := Iff.rfl

/-- comparison says `Equal` exactly for equal identifiers (consistency of `Ord` with the derived `Eq`) -/
theorem cmp_eq_iff (a b : Identifier τ) : cmp a b = .eq ↔ a = b :=
  ⟨fun h => Identifier.ext (cmpPath_eq_iff.mp h), fun h => h ▸ cmpPath_refl _⟩

theorem cmp_refl (a : Identifier τ) : cmp a a = .eq := (cmp_eq_iff a a).mpr rfl

theorem cmp_gt_iff_lt_swap (a b : Identifier τ) : cmp a b = .gt ↔ cmp b a = .lt := cmpPath_gt_iff

/-- antisymmetry, all three outcomes: swapping the arguments swaps the outcome -/
theorem cmp_swap (a b : Identifier τ) : cmp b a = (cmp a b).swap := cmpPath_swap _ _

theorem lt_irrefl (a : Identifier τ) : ¬ a < a := LinOrd.lt_irrefl a
theorem lt_asymm {a b : Identifier τ} : a < b → ¬ b < a := LinOrd.lt_asymm
theorem lt_trans {a b c : Identifier τ} : a < b → b < c → a < c := LinOrd.lt_trans
/-- totality (trichotomy) -/
theorem lt_total (a b : Identifier τ) : a < b ∨ a = b ∨ b < a := LinOrd.lt_tri a b

/-- transitivity stated on `cmp` for every outcome (the crate's `prop_id_ord_is_transitive`) -/
theorem cmp_trans {a b c : Identifier τ} {o : Ordering} (h1 : cmp a b = o) (h2 : cmp b c = o) : cmp a c = o := by
  cases o
  · exact lt_trans (a := a) (b := b) (c := c) h1 h2
  · rewrite [(cmp_eq_iff a b).mp h1]; exact h2
  · rewrite [cmp_gt_iff_lt_swap] at *
    exact lt_trans (a := c) (b := b) (c := a) h2 h1

/-- equal identifiers compare alike against anything (second half of `prop_id_ord_is_transitive`) -/
theorem cmp_congr {a b : Identifier τ} (h : cmp a b = .eq) (c : Identifier τ) : cmp a c = cmp b c := by
  rw [(cmp_eq_iff a b).mp h]

/-- what the order MEANS: `a < b` iff at the first position where the paths differ `a` still has a node `x` and either
`b` has ended there, or `b` has a node `y` there with `x < y` on (rational, marker) lexicographically -/
theorem lt_iff_first_difference (a b : Identifier τ) :
    a < b ↔ ∃ c x s, a.path = c ++ x :: s ∧
      (b.path = c ∨ ∃ y t, b.path = c ++ y :: t ∧ (x.1 < y.1 ∨ (x.1 = y.1 ∧ x.2 < y.2))) :=
  cmpPath_lt_iff a.path b.path

/-- a proper prefix is GREATER than its extensions (src/identifier.rs:48 `(None, Some(_)) => Greater`) -/
theorem prefix_greater (p q : List (Rat × τ)) (hq : q ≠ []) : (⟨p ++ q⟩ : Identifier τ) < ⟨p⟩ := by
  obtain _ | ⟨x, s⟩ := q
  · exact absurd rfl hq
  · exact cmpPath_append_lt p x s

/-- the empty identifier is the greatest element -/
theorem empty_greatest (a : Identifier τ) (h : a.path ≠ []) : a < ⟨[]⟩ := prefix_greater [] a.path h

/-- …hence anything that is below something is non-empty: `lo ≠ []` is not an extra hypothesis of density -/
theorem lt_low_nonempty {lo hi : Identifier τ} (h : lo < hi) : lo.path ≠ [] :=
  fun e => cmpPath_nil_ne_lt hi.path (e ▸ (h : cmpPath lo.path hi.path = .lt))

/-- **dense**: for `low < high` and any marker, `low < between(low, high, m) < high` -/
theorem between_strict {lo hi : Identifier τ} (h : lo < hi) (m : τ) :
    lo < between (some lo) (some hi) m ∧ between (some lo) (some hi) m < hi := Identifier.between_strict h m

/-- argument order is irrelevant -/
theorem between_comm (a b : Identifier τ) (m : τ) :
    between (some a) (some b) m = between (some b) (some a) m := by
  rcases lt_total a b with h | h | h
  · rw [between_of_lt h, between_of_gt h]
  · subst h; rfl
  · rw [between_of_gt h, between_of_lt h]

/-- the module-level claim of src/identifier.rs:6-7: for `a ≠ b` the result is strictly between, whichever way round -/
theorem between_strict_of_ne {a b : Identifier τ} (h : a ≠ b) (m : τ) :
    (a < between (some a) (some b) m ∧ between (some a) (some b) m < b) ∨
    (b < between (some a) (some b) m ∧ between (some a) (some b) m < a) := by
  rcases lt_total a b with l | e | g
  · exact Or.inl (between_strict l m)
  · exact absurd e h
  · right; rewrite [between_comm]; exact between_strict g m

/-- equal bounds: the bound itself is returned, the marker is dropped (src/identifier.rs:79 `Equal => high.clone()`) -/
theorem between_self (a : Identifier τ) (m : τ) : between (some a) (some a) m = a := by
  simp [between, cmp_refl a]

/-- only a lower bound: strictly above it, PROVIDED the bound is not the empty identifier -/
theorem between_after {lo : Identifier τ} (h : lo.path ≠ []) (m : τ) : lo < between (some lo) none m :=
  Identifier.between_after h m

/-- only a lower bound which is the empty identifier: the result `[(0,m)]` is BELOW the bound -/
theorem between_after_empty (m : τ) :
    between (some (⟨[]⟩ : Identifier τ)) none m = ⟨[(0, m)]⟩ ∧ between (some (⟨[]⟩ : Identifier τ)) none m < ⟨[]⟩ :=
  ⟨rfl, rfl⟩

/-- only an upper bound: strictly below it (every `hi`, the empty identifier included) -/
theorem between_before (hi : Identifier τ) (m : τ) : between none (some hi) m < hi := Identifier.between_before hi m

theorem between_none_none (m : τ) : between (none : Option (Identifier τ)) none m = ⟨[(0, m)]⟩ := rfl

/-! ## unique per insert: the result carries the marker -/

/-- unless both bounds are the same identifier, the last marker of the result is `m` … -/
theorem between_value (low high : Option (Identifier τ)) (m : τ)
    (hne : ∀ a, ¬ (low = some a ∧ high = some a)) : (between low high m).value = some m :=
  Identifier.between_value low high m hne

/-- … and the result is non-empty (`value` does not panic on it) -/
theorem between_nonempty (low high : Option (Identifier τ)) (m : τ)
    (hne : ∀ a, ¬ (low = some a ∧ high = some a)) : (between low high m).path ≠ [] :=
  ne_nil_of_value (between_value low high m hne)

/-- identifiers tagged with distinct markers never collide -/
theorem between_distinct_markers (low high low' high' : Option (Identifier τ)) {m m' : τ} (hm : m ≠ m')
    (hne : ∀ a, ¬ (low = some a ∧ high = some a)) (hne' : ∀ a, ¬ (low' = some a ∧ high' = some a)) :
    between low high m ≠ between low' high' m' := by
  intro e
  have h1 := between_value low high m hne
  have h2 := between_value low' high' m' hne'
  rewrite [e, h2] at h1
  exact hm (Option.some.inj h1).symm
end laws

/-! ## non-vacuity and witnesses -/

-- `decide +kernel`: where `between` computes a new rational, `Rat.add`/`Rat.div` normalise by `Nat.gcd` (well-founded
-- recursion), which only the kernel evaluates; elsewhere it spares the elaborator's own evaluation before the kernel's.

/-- the crate's own regression `test_id_is_dense_qc1`: `[0:0,0:0] < [0:0]`; the high path runs out: arm
`(Some(low), None) => low + 1`, no midpoint -/
example : let a : Identifier Nat := ⟨[(0, 0), (0, 0)]⟩; let b : Identifier Nat := ⟨[(0, 0)]⟩
    a < b ∧ between (some a) (some b) 0 = ⟨[(0, 0), (1, 0)]⟩ := by decide +kernel

/-- diverged markers: the low path is cleared and the path grows below the high sibling -/
example : between (some (⟨[(0, 1), (5, 7)]⟩ : Identifier Nat)) (some ⟨[(0, 2), (3, 3)]⟩) 9 = ⟨[(0, 2), (2, 9)]⟩ := by decide +kernel

/-- WITNESS that `lo ≠ []` is needed for the one-sided lower bound: `between(Some([]), None, 5) = [0:5] < []` -/
theorem after_empty_witness :
    between (some (⟨[]⟩ : Identifier Nat)) none 5 = ⟨[(0, 5)]⟩ ∧ ¬ ((⟨[]⟩ : Identifier Nat) < between (some ⟨[]⟩) none 5) := by
  decide +kernel

/-- equal bounds drop the marker -/
example : (between (some (⟨[(1, 1)]⟩ : Identifier Nat)) (some ⟨[(1, 1)]⟩) 9).value = some 1 := by decide +kernel

end Crdt.C14
