import CrdtModel.Proofs.MerkleReg
/-!
# C15 — MerkleReg: the state is a function of the set of nodes received; reads are the DAG heads

Hypotheses everywhere: `hash` is the (abstract) hash function, `U` lists the nodes that exist in the history, `InjOn hash U`
says that no two of them have the same hash (collision-freeness of sha3, the only assumption), and `Reach U s K` that `s` is
the state of *any* replica or snapshot of *any* history over `U`: nodes arrive in any order (children before parents or
after: there is no delivery discipline, `Ok := True`), any number of times, and states (live, stale, own past) are merged in
any pattern; `K` lists the nodes `s` has received.

Conclusions are exact: `dag` = the received nodes all of whose ancestors have been received (`Visible K`), `orphans` =
the other received nodes, `roots`/`read()` = the visible nodes that no visible node lists as a child (`Head K`).
"Ancestor" is meant in time: the ancestors of a node are the nodes it lists as `children` (the values it was written on top
of), their children, and so on; the crate's `parents(h)` are, the other way round, the nodes that list `h`.
-/
namespace Crdt.C15
open RepSys MerkleSpec

section
variable {H : Type} [LinOrd H] {τ : Type} {hash : Node H τ → H}

/-- `apply` (defined through a work list with a proved termination measure) satisfies the recursive equation of
src/merkle_reg.rs:209-254 – for *every* state, well-formed or not -/
theorem apply_recursion_equation (s : MerkleReg H τ) (nd : Node H τ) :
    MerkleReg.apply hash s nd =
      if (s.dag.contains (hash nd) || s.orphans.contains (hash nd)) = true then s
      else if s.allHashesSeen nd.children = true then
        (s.insertVisible (hash nd) nd).2.foldl (fun acc n => MerkleReg.apply hash acc n) (s.insertVisible (hash nd) nd).1
      else ⟨s.roots, s.dag, s.orphans.insert (hash nd) nd⟩ :=
  MerkleReg.apply_unfold hash s nd

/-- `orphans` shrinks by as many nodes as are taken out for re-application (the ready ones: `mem_insertVisible_snd`):
the measure `orphans.len() + pending work` of the recursion strictly decreases with every dag insertion -/
theorem apply_measure (s : MerkleReg H τ) (h : H) (nd : Node H τ) :
    (s.insertVisible h nd).1.orphans.size + (s.insertVisible h nd).2.length = s.orphans.size :=
  s.insertVisible_size h nd

/-- closure … -/
theorem visible_closed {K : List (Node H τ)} {n : Node H τ} (hn : n ∈ K)
    (hc : ∀ c, n.children.contains c = true → ∃ m, Visible hash K m ∧ hash m = c) : Visible hash K n :=
  MerkleSpec.visible_closed hash hn hc

/-- … and leastness: `Visible K` is the least set of nodes closed under
"`n ∈ K` and every child hash of `n` is the hash of a member ⇒ `n` is a member" -/
theorem visible_least {K : List (Node H τ)} (S : Node H τ → Prop)
    (closed : ∀ n, n ∈ K → (∀ c, n.children.contains c = true → ∃ m, S m ∧ hash m = c) → S n)
    {n : Node H τ} (v : Visible hash K n) : S n :=
  MerkleSpec.visible_least hash S closed v

/-- the fixpoint iteration (`|K|` rounds) printed by the driver as `dag=` specification field computes it -/
theorem visibleList_spec {K : List (Node H τ)} {n : Node H τ} : n ∈ visibleList hash K ↔ Visible hash K n :=
  mem_visibleList
theorem orphanList_spec {K : List (Node H τ)} {n : Node H τ} :
    n ∈ orphanList hash K ↔ (n ∈ K ∧ ¬ Visible hash K n) := by
  simp only [orphanList, List.mem_filter, Bool.not_eq_true', ← Bool.not_eq_true, kidsIn_iff, mem_visibleList]
  exact and_congr_right fun hn => not_congr ((visible_iff hash).trans (and_iff_right hn)).symm
theorem headList_spec {K : List (Node H τ)} {n : Node H τ} : n ∈ headList hash K ↔ Head hash K n := by
  simp only [headList, List.mem_filter, List.all_eq_true, Bool.not_eq_true', mem_visibleList, Head]

/-- visibility only grows with knowledge -/
theorem visible_mono {K K' : List (Node H τ)} (sub : ∀ n, n ∈ K → n ∈ K') {n : Node H τ} (v : Visible hash K n) :
    Visible hash K' n := v.mono hash sub

variable {U : List (Node H τ)}

section
variable {s : MerkleReg H τ} {K : List (Node H τ)} (wf : InjOn hash U) (h : (merkleSys hash).Reach U s K)
include wf h

theorem rep : MRep hash K s := (reach_rep (R := merkleSys hash) wf h).2

theorem known_injOn : InjOn hash K := wf.mono (reach_sub h)

theorem dag_contains_iff (x : H) : s.dag.contains x = true ↔ VisH hash K x := (rep wf h).dag_contains_iff x

theorem visible_in_dag {n : Node H τ} (v : Visible hash K n) :
    s.dag.get? (hash n) = some n ∧ s.orphans.get? (hash n) = none := (rep wf h).visible_in_dag (known_injOn wf h) v

/-- the children `write(v, read().hashes())` lists are exactly the hashes of the heads -/
theorem hashes_read_contains (x : H) :
    (MerkleReg.hashes s.read).contains x = true ↔ ∃ m, hash m = x ∧ Head hash K m :=
  (rep wf h).hashes_read_contains (known_injOn wf h) x

end

/-- `dag` = exactly the received nodes all of whose ancestors have been received, stored under their hash -/
theorem dag_eq_visible {s : MerkleReg H τ} {K : List (Node H τ)} (wf : InjOn hash U) (h : (merkleSys hash).Reach U s K)
    (x : H) (n : Node H τ) : s.dag.get? x = some n ↔ (hash n = x ∧ Visible hash K n) := (rep wf h).dag x n

/-- `orphans` = exactly the received nodes with a missing ancestor -/
theorem orphans_eq_invisible {s : MerkleReg H τ} {K : List (Node H τ)} (wf : InjOn hash U)
    (h : (merkleSys hash).Reach U s K) (x : H) (n : Node H τ) :
    s.orphans.get? x = some n ↔ (hash n = x ∧ n ∈ K ∧ ¬ Visible hash K n) := (rep wf h).orphans x n

/-- `roots` = exactly the hashes of the heads -/
theorem roots_eq_heads {s : MerkleReg H τ} {K : List (Node H τ)} (wf : InjOn hash U) (h : (merkleSys hash).Reach U s K)
    (x : H) : s.roots.contains x = true ↔ ∃ n, hash n = x ∧ Head hash K n := (rep wf h).roots x

/-- **`read()` = the DAG heads**: the visible nodes that no visible node lists as a child -/
theorem read_eq_heads {s : MerkleReg H τ} {K : List (Node H τ)} (wf : InjOn hash U) (h : (merkleSys hash).Reach U s K)
    (x : H) (n : Node H τ) : s.read.get? x = some n ↔ (hash n = x ∧ Head hash K n) :=
  (rep wf h).read_get? (known_injOn wf h) x n

/-- on the executable `headList`, so that `decide` discharges `no` in the examples -/
theorem read_eq_none {s : MerkleReg H τ} {K : List (Node H τ)} (wf : InjOn hash U) (h : (merkleSys hash).Reach U s K)
    (x : H) (no : ∀ n, n ∈ headList hash K → hash n ≠ x) : s.read.get? x = none :=
  Option.eq_none_iff_forall_ne_some.mpr fun n hr =>
    have eh := (read_eq_heads wf h x n).mp hr
    no n (headList_spec.mpr eh.2) eh.1

/-- every root is in the dag (so `read` drops nothing: the `filter_map` in src/merkle_reg.rs:110 never filters) -/
theorem roots_subset_dag {s : MerkleReg H τ} {K : List (Node H τ)} (wf : InjOn hash U) (h : (merkleSys hash).Reach U s K)
    (x : H) (hx : s.roots.contains x = true) : s.dag.contains x = true := by
  obtain ⟨n, e, hd⟩ := (roots_eq_heads wf h x).mp hx
  exact FMap.contains_of_get? ((dag_eq_visible wf h x n).mpr ⟨e, hd.1⟩)

/-! ## order independence, merge laws, duplicates -/

/-- **the state is a function of the set of received nodes**: two replicas/snapshots that received the same nodes –
in whatever orders, with whatever duplications and merges – are structurally equal (`==`) -/
theorem state_function_of_node_set {s s' : MerkleReg H τ} {K K' : List (Node H τ)} (wf : InjOn hash U)
    (h : (merkleSys hash).Reach U s K) (h' : (merkleSys hash).Reach U s' K') (e : ∀ n, n ∈ K ↔ n ∈ K') : s = s' :=
  converge (R := merkleSys hash) wf h h' e

theorem reach_foldl (l : List (Node H τ)) (hl : ∀ n, n ∈ l → n ∈ U) {s : MerkleReg H τ} {K : List (Node H τ)}
    (h : (merkleSys hash).Reach U s K) :
    (merkleSys hash).Reach U (l.foldl (fun acc n => MerkleReg.apply hash acc n) s) (l.reverse ++ K) := by
  induction l generalizing s K with
  | nil => simpa using h
  | cons n t ih =>
    simp only [List.foldl_cons, List.reverse_cons, List.append_assoc, List.singleton_append]
    exact ih (fun m hm => hl m (List.mem_cons_of_mem _ hm)) (Reach.apply h (hl n List.mem_cons_self) trivial)

/-- **order independence of `apply`**: from any reachable state, applying the same set of further nodes in two
different orders (with repetitions) gives the same register -/
theorem apply_order_independent_from {s : MerkleReg H τ} {K : List (Node H τ)} (wf : InjOn hash U)
    (h : (merkleSys hash).Reach U s K) (l₁ l₂ : List (Node H τ)) (h₁ : ∀ n, n ∈ l₁ → n ∈ U)
    (e : ∀ n, n ∈ l₁ ↔ n ∈ l₂) :
    l₁.foldl (fun acc n => MerkleReg.apply hash acc n) s = l₂.foldl (fun acc n => MerkleReg.apply hash acc n) s := by
  have h₂ : ∀ n, n ∈ l₂ → n ∈ U := fun n hn => h₁ n ((e n).mpr hn)
  refine state_function_of_node_set wf (reach_foldl l₁ h₁ h) (reach_foldl l₂ h₂ h) ?_
  intro n; simp only [List.mem_append, List.mem_reverse, e n]

/-- order independence of `apply` from the fresh register (`apply_order_independent_from` at `init`) -/
theorem apply_order_independent (wf : InjOn hash U) (l₁ l₂ : List (Node H τ)) (h₁ : ∀ n, n ∈ l₁ → n ∈ U)
    (e : ∀ n, n ∈ l₁ ↔ n ∈ l₂) :
    l₁.foldl (fun acc n => MerkleReg.apply hash acc n) MerkleReg.init =
      l₂.foldl (fun acc n => MerkleReg.apply hash acc n) MerkleReg.init :=
  apply_order_independent_from wf Reach.init l₁ l₂ h₁ e

theorem merge_comm {s s' : MerkleReg H τ} {K K' : List (Node H τ)} (wf : InjOn hash U)
    (h : (merkleSys hash).Reach U s K) (h' : (merkleSys hash).Reach U s' K') :
    MerkleReg.merge hash s s' = MerkleReg.merge hash s' s := RepSys.merge_comm (R := merkleSys hash) wf h h'

theorem merge_assoc {a b c : MerkleReg H τ} {Ka Kb Kc : List (Node H τ)} (wf : InjOn hash U)
    (ha : (merkleSys hash).Reach U a Ka) (hb : (merkleSys hash).Reach U b Kb) (hc : (merkleSys hash).Reach U c Kc) :
    MerkleReg.merge hash (MerkleReg.merge hash a b) c = MerkleReg.merge hash a (MerkleReg.merge hash b c) :=
  RepSys.merge_assoc (R := merkleSys hash) wf ha hb hc

theorem merge_idem {s : MerkleReg H τ} {K : List (Node H τ)} (wf : InjOn hash U) (h : (merkleSys hash).Reach U s K) :
    MerkleReg.merge hash s s = s := RepSys.merge_idem (R := merkleSys hash) wf h

/-- merging = having received the union (equal to any state, however obtained, that received exactly the union) -/
theorem merge_is_union {s s' t : MerkleReg H τ} {K K' L : List (Node H τ)} (wf : InjOn hash U)
    (h : (merkleSys hash).Reach U s K) (h' : (merkleSys hash).Reach U s' K') (ht : (merkleSys hash).Reach U t L)
    (e : ∀ n, n ∈ L ↔ (n ∈ K ∨ n ∈ K')) : MerkleReg.merge hash s s' = t :=
  RepSys.merge_is_union (R := merkleSys hash) wf h h' ht e

/-- a node received again changes nothing – visible or still orphaned -/
theorem duplicate_absorbed {s : MerkleReg H τ} {K : List (Node H τ)} (wf : InjOn hash U)
    (h : (merkleSys hash).Reach U s K) {nd : Node H τ} (hu : nd ∈ U) (hk : nd ∈ K) : MerkleReg.apply hash s nd = s :=
  RepSys.dup_noop (R := merkleSys hash) wf h hu hk

/-- merging a state that knows nothing new (old snapshot, own past, lagging peer) changes nothing -/
theorem stale_merge_absorbed {s s' : MerkleReg H τ} {K K' : List (Node H τ)} (wf : InjOn hash U)
    (h : (merkleSys hash).Reach U s K) (h' : (merkleSys hash).Reach U s' K') (sub : ∀ n, n ∈ K' → n ∈ K) :
    MerkleReg.merge hash s s' = s := RepSys.stale_noop (R := merkleSys hash) wf h h' sub

/-! ## orphans -/

/-- `apply` re-establishes "no orphan has all its children in the dag" from ANY state that satisfies it (no
hypothesis on hashes, on the state's origin or on the node) … -/
theorem apply_preserves_noReadyOrphan (s : MerkleReg H τ) (nd : Node H τ) (nro : NoReadyOrphan s) :
    NoReadyOrphan (MerkleReg.apply hash s nd) := NoReadyOrphan.applyAll [nd] nro

/-- … and every reachable state satisfies it -/
theorem noReadyOrphan {s : MerkleReg H τ} {K : List (Node H τ)} (wf : InjOn hash U) (h : (merkleSys hash).Reach U s K) :
    NoReadyOrphan s := (rep wf h).noReadyOrphan

/-- **an orphan becomes visible as soon as its last missing ancestor arrives**: whatever `op` is, right after
`apply s op` every node visible with respect to `op :: K` – in particular every orphan of `s` whose missing ancestors are
all supplied, however long the chain of orphans that had to be resolved first – is in the dag and not among the orphans,
within this one call -/
theorem orphan_becomes_visible {s : MerkleReg H τ} {K : List (Node H τ)} (wf : InjOn hash U)
    (h : (merkleSys hash).Reach U s K) {op : Node H τ} (hu : op ∈ U) {n : Node H τ}
    (v : Visible hash (op :: K) n) :
    (MerkleReg.apply hash s op).dag.get? (hash n) = some n ∧ (MerkleReg.apply hash s op).orphans.get? (hash n) = none :=
  visible_in_dag wf (Reach.apply (R := merkleSys hash) h hu trivial) v

/-- and conversely the dag after `apply` holds nothing else -/
theorem dag_after_apply {s : MerkleReg H τ} {K : List (Node H τ)} (wf : InjOn hash U)
    (h : (merkleSys hash).Reach U s K) {op : Node H τ} (hu : op ∈ U) (x : H) (n : Node H τ) :
    (MerkleReg.apply hash s op).dag.get? x = some n ↔ (hash n = x ∧ Visible hash (op :: K) n) :=
  dag_eq_visible wf (Reach.apply (R := merkleSys hash) h hu trivial) x n

/-- an orphan that is still not visible stays an orphan: nothing is ever dropped -/
theorem orphan_stays {s : MerkleReg H τ} {K : List (Node H τ)} (wf : InjOn hash U)
    (h : (merkleSys hash).Reach U s K) {op : Node H τ} (hu : op ∈ U) {n : Node H τ}
    (ho : s.orphans.get? (hash n) = some n) (nv : ¬ Visible hash (op :: K) n) :
    (MerkleReg.apply hash s op).orphans.get? (hash n) = some n :=
  (orphans_eq_invisible wf (Reach.apply (R := merkleSys hash) h hu trivial) _ n).mpr
    ⟨rfl, List.mem_cons_of_mem _ ((orphans_eq_invisible wf h _ n).mp ho).2.1, nv⟩

/-- every received node is held: in the dag or among the orphans -/
theorem received_is_held {s : MerkleReg H τ} {K : List (Node H τ)} (wf : InjOn hash U)
    (h : (merkleSys hash).Reach U s K) {n : Node H τ} (hn : n ∈ K) : s.node (hash n) = some n := by
  by_cases v : Visible hash K n
  · exact MerkleReg.node_eq_some_iff.mpr (Or.inl (visible_in_dag wf h v).1)
  · have ho := (orphans_eq_invisible wf h _ n).mpr ⟨rfl, hn, v⟩
    exact MerkleReg.node_eq_some_iff.mpr (Or.inr ⟨(rep wf h).dag_none_of_orphan (known_injOn wf h) ho, ho⟩)

/-- **writing a node whose children are the heads just read makes it the single head**: `nd = s.write v (s.read().hashes())`,
applied to `s`.  `nd` must really be new: not received yet, and no received node (an orphan sent ahead by a peer
that created the very same node) lists its hash – otherwise that parent, not `nd`, ends up on top. -/
theorem write_resolves {s : MerkleReg H τ} {K : List (Node H τ)} (wf : InjOn hash U)
    (h : (merkleSys hash).Reach U s K) (v : τ) (hu : s.write v (MerkleReg.hashes s.read) ∈ U)
    (fresh : s.write v (MerkleReg.hashes s.read) ∉ K)
    (unlisted : ∀ m, m ∈ K → m.children.contains (hash (s.write v (MerkleReg.hashes s.read))) = false) :
    (MerkleReg.apply hash s (s.write v (MerkleReg.hashes s.read))).read =
      (∅ : FMap H (Node H τ)).insert (hash (s.write v (MerkleReg.hashes s.read))) (s.write v (MerkleReg.hashes s.read)) := by
  generalize hnd : s.write v (MerkleReg.hashes s.read) = nd at *
  have sub := reach_sub h
  have up : ∀ n, n ∈ K → n ∈ nd :: K := fun _ => List.mem_cons_of_mem _
  have kids : ∀ c, nd.children.contains c = true ↔ ∃ m, hash m = c ∧ Head hash K m :=
    fun c => hnd ▸ hashes_read_contains wf h c
  have ndVis : Visible hash (nd :: K) nd := visible_of_lists_heads hash up List.mem_cons_self fun c => (kids c).mp
  -- `nd` does not list itself either: it lists received nodes only
  have noself : nd.children.contains (hash nd) = false := Bool.eq_false_iff.mpr fun hc => by
    obtain ⟨m, e, hm⟩ := (kids _).mp hc
    exact fresh (wf m (sub m hm.1.1) nd hu e ▸ hm.1.1)
  have heads : ∀ n, Head hash (nd :: K) n ↔ n = nd := by
    refine fun n => ⟨fun hn => (List.mem_cons.mp hn.1.1).resolve_right fun hm => ?_, ?_⟩
    · -- a head of `nd :: K` other than `nd` is a head of `K`, which `nd` lists
      have hd : Head hash K n := ⟨visible_cons_unlisted unlisted hm hn.1, fun m vm => hn.2 m (vm.mono hash up)⟩
      exact Bool.false_ne_true ((hn.2 nd ndVis).symm.trans ((kids _).mpr ⟨n, rfl, hd⟩))
    · rintro rfl
      refine ⟨ndVis, fun m vm => ?_⟩
      rcases List.mem_cons.mp vm.1 with rfl | hm
      · exact noself
      · exact unlisted m hm
  refine FMap.ext_some fun x n => (read_eq_heads wf (Reach.apply (R := merkleSys hash) h hu trivial) x n).trans ?_
  rewrite [heads, FMap.get?_insert, FMap.get?_empty, Option.ite_none_right_eq_some, Option.some.injEq]
  constructor
  · rintro ⟨rfl, rfl⟩; exact ⟨rfl, rfl⟩
  · rintro ⟨rfl, rfl⟩; exact ⟨rfl, rfl⟩

/-- `validate_op` accepts a node iff all its children are in the dag … -/
theorem validate_op_ok_iff (s : MerkleReg H τ) (op : Node H τ) :
    s.validateOp op = .ok () ↔ ∀ c, op.children.contains c = true → s.dag.contains c = true :=
  s.validateOp_ok_iff op

/-- … and otherwise reports the least (in the order of `BTreeSet<Hash>`) child that is not in the dag -/
theorem validate_op_missing_iff (s : MerkleReg H τ) (op : Node H τ) (x : H) :
    s.validateOp op = .error (.missingChild x) ↔
      (op.children.contains x = true ∧ s.dag.contains x = false ∧
        ∀ c, op.children.contains c = true → c < x → s.dag.contains c = true) :=
  s.validateOp_missing_iff op x

/-- the same in terms of what the replica has received … -/
theorem validate_op_ok_iff_spec {s : MerkleReg H τ} {K : List (Node H τ)} (wf : InjOn hash U)
    (h : (merkleSys hash).Reach U s K) (op : Node H τ) :
    s.validateOp op = .ok () ↔ ∀ c, op.children.contains c = true → VisH hash K c := by
  rewrite [MerkleReg.validateOp_ok_iff]
  simp only [dag_contains_iff wf h]

/-- … so an accepted node, once applied, is visible at once (never orphaned) -/
theorem validate_op_ok_visible {s : MerkleReg H τ} {K : List (Node H τ)} (wf : InjOn hash U)
    (h : (merkleSys hash).Reach U s K) {op : Node H τ} (hu : op ∈ U) (ok : s.validateOp op = .ok ()) :
    (MerkleReg.apply hash s op).dag.get? (hash op) = some op :=
  (dag_after_apply wf h hu _ op).mpr ⟨rfl, List.mem_cons_self, fun c hc =>
    ((validate_op_ok_iff_spec wf h op).mp ok c hc).mono hash fun _ => List.mem_cons_of_mem _⟩

theorem validate_op_missing_iff_spec {s : MerkleReg H τ} {K : List (Node H τ)} (wf : InjOn hash U)
    (h : (merkleSys hash).Reach U s K) (op : Node H τ) (x : H) :
    s.validateOp op = .error (.missingChild x) ↔
      (op.children.contains x = true ∧ ¬ VisH hash K x ∧
        ∀ c, op.children.contains c = true → c < x → VisH hash K c) := by
  rewrite [MerkleReg.validateOp_missing_iff]
  simp only [← dag_contains_iff wf h, Bool.not_eq_true]

end

/-! ## non-vacuity -/

/-- example hash: the value of a node is its id (in the driver: the value's second component) -/
def exHash (n : Node Nat Nat) : Nat := n.value
def exSet (l : List Nat) : FSet Nat := l.foldl (fun s h => s.insert h ()) ∅
/-- a diamond: `A` ← `B`, `A` ← `C`, `{B, C}` ← `D` -/
def nA : Node Nat Nat := ⟨exSet [], 1⟩
def nB : Node Nat Nat := ⟨exSet [1], 2⟩
def nC : Node Nat Nat := ⟨exSet [1], 3⟩
def nD : Node Nat Nat := ⟨exSet [2, 3], 4⟩
def exU : List (Node Nat Nat) := [nA, nB, nC, nD]

theorem exWF : InjOn exHash exU := InjOn.of_pairwise (by decide +kernel)

/-- the executable spec on the diamond: nothing is visible without the root; `D` is the only head once all arrived -/
example : visibleList exHash [nD, nC, nB] = [] := by decide +kernel
example : orphanList exHash [nD, nC, nB] = [nD, nC, nB] := by decide +kernel
example : visibleList exHash [nD, nC, nA] = [nC, nA] := by decide +kernel
example : headList exHash [nD, nC, nA] = [nC] := by decide +kernel
example : headList exHash [nD, nC, nA, nB] = [nD] := by decide +kernel

/-- a replica that received the diamond top-down (every node before its children) and one that merged two partial
peers are reachable and equal -/
example : ∃ s s' K K', (merkleSys exHash).Reach exU s K ∧ (merkleSys exHash).Reach exU s' K' ∧ s = s' ∧
    s.dag.get? 1 = some nA ∧ s.dag.get? 4 = some nD ∧ s.orphans.get? 4 = none ∧
    s.read.get? 4 = some nD ∧ s.read.get? 2 = none := by
  have r1 : (merkleSys exHash).Reach exU _ _ :=
    reach_foldl (hash := exHash) (U := exU) [nD, nC, nB, nA] (by decide) Reach.init
  have r2 : (merkleSys exHash).Reach exU _ _ :=
    Reach.merge (reach_foldl (hash := exHash) (U := exU) [nD, nB] (by decide) Reach.init)
      (reach_foldl (hash := exHash) (U := exU) [nC, nA, nC] (by decide) Reach.init)
  have d4 := visible_in_dag exWF r1 (n := nD) (visibleList_spec.mp (by decide))
  exact ⟨_, _, _, _, r1, r2, state_function_of_node_set exWF r1 r2 (List.mem_iff_of_subset (by decide) (by decide)),
    (dag_eq_visible exWF r1 1 nA).mpr ⟨rfl, visibleList_spec.mp (by decide)⟩, d4.1, d4.2,
    (read_eq_heads exWF r1 4 nD).mpr ⟨rfl, headList_spec.mp (by decide)⟩, read_eq_none exWF r1 2 (by decide)⟩

/-- `write_resolves` applies (its hypotheses are satisfiable): the first write on a fresh register -/
example : (MerkleReg.apply exHash MerkleReg.init nA).read = (∅ : FMap Nat (Node Nat Nat)).insert 1 nA :=
  write_resolves (hash := exHash) (U := exU) (s := MerkleReg.init) (K := []) exWF Reach.init 1 (by decide) (by decide)
    (by intro m hm; cases hm)

/-- `validate_op`: on a fresh register `D` is rejected for its least missing child `B` (hash 2), `A` is accepted -/
example : (MerkleReg.init : MerkleReg Nat Nat).validateOp nD = .error (.missingChild 2) := by rfl
example : (MerkleReg.init : MerkleReg Nat Nat).validateOp nA = .ok () := by rfl

end Crdt.C15
