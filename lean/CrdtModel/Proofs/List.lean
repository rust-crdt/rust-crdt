import CrdtModel.Model.List
import CrdtModel.Proofs.Between
/-! `List` (src/list.rs): what its operations compute, in closed form.  The stored identifiers are strictly increasing, so
positions compare like the identifiers found there: that is all `keys`, `iter_entries`, `position_entry` need.
`insert_index` builds an identifier between two neighbours that ends in the actor's next dot; `apply` on an op that carries
a dot is the dot gate followed by the entry update (`apply?_of_dot`), and keeps the invariant `IdsNonEmpty`. -/
namespace Crdt
open LinOrd Identifier

/-- `op.dot()` panics exactly on an insert op carrying the empty identifier -/
theorem ListOp.dot_eq_none_iff {τ α : Type} (op : ListOp τ α) : op.dot = none ↔ ∃ v, op = .insert ⟨[]⟩ v := by
  cases op with
  | insert id v => simp [ListOp.dot, value_eq_none_iff]
  | delete id d => simp [ListOp.dot]

theorem ListOp.id_nonempty_of_dot {τ α : Type} [LinOrd α] {id : Identifier (OrdDot α)} {v : τ} {d : Dot α}
    (hd : (ListOp.insert id v).dot = some d) : id.path ≠ [] := by
  obtain ⟨m, hm, _⟩ := Option.map_eq_some_iff.mp hd
  exact ne_nil_of_value hm

namespace ListCrdt
variable {τ α : Type} [LinOrd α]

/-- no stored identifier is the empty one (an invariant of every state built through the API, see C13) -/
def IdsNonEmpty (s : ListCrdt τ α) : Prop := ∀ i ∈ s.keys, i.path ≠ []

theorem keys_sorted (s : ListCrdt τ α) : s.keys.Pairwise (· < ·) := List.pairwise_map.mpr s.seq.sorted

theorem len_eq (s : ListCrdt τ α) : s.len = s.keys.length := (List.length_map _).symm
theorem len_eq_read (s : ListCrdt τ α) : s.len = s.read.length := (List.length_map _).symm

theorem getElem?_keys (s : ListCrdt τ α) (i : Nat) : s.keys[i]? = s.iterEntries[i]?.map (·.1) := List.getElem?_map ..
theorem position_eq (s : ListCrdt τ α) (i : Nat) : s.position i = s.iterEntries[i]?.map (·.2) := List.getElem?_map ..

/-- `position_entry` (src/list.rs:211-215) returns the index at which the identifier is stored -/
theorem positionEntry_eq_some_iff (s : ListCrdt τ α) (id : Identifier (OrdDot α)) (i : Nat) :
    s.positionEntry id = some i ↔ s.keys[i]? = some id := by
  rewrite [positionEntry, List.getElem?_eq_some_iff, Option.ite_none_right_eq_some, Option.some.injEq]
  constructor
  · rintro ⟨hlt, rfl⟩
    exact ⟨hlt, of_decide_eq_true (List.findIdx_getElem (w := hlt))⟩
  · rintro ⟨hi, e⟩
    -- the keys are strictly increasing, so no earlier position holds `id`
    have : s.keys.findIdx (· = id) = i := (List.findIdx_eq hi).mpr ⟨decide_eq_true e, fun j hj =>
      decide_eq_false fun ej => Nat.ne_of_lt hj
        ((List.getElem_inj (s.keys_sorted.imp ne_of_lt)).mp (ej.trans e.symm))⟩
    exact ⟨this ▸ hi, this⟩

theorem mem_keys_iff (s : ListCrdt τ α) (id : Identifier (OrdDot α)) : id ∈ s.keys ↔ ∃ v, s.seq.get? id = some v := by
  simp only [keys, List.mem_map, Prod.exists, exists_and_right, exists_eq_right, FMap.mem_l_iff]

theorem mem_entries_iff (s : ListCrdt τ α) (id : Identifier (OrdDot α)) (v : τ) :
    (id, v) ∈ s.iterEntries ↔ s.seq.get? id = some v := FMap.mem_l_iff

theorem entries_nodup (s : ListCrdt τ α) : s.iterEntries.Nodup := AL.nodup_of_sorted s.seq.sorted

theorem toDot_ofDot (d : Dot α) : OrdDot.toDot (OrdDot.ofDot d) = d := rfl

theorem insertIndex_eq (s : ListCrdt τ α) (ix : Nat) (x : τ) (a : α) :
    s.insertIndex ix x a = .insert (between (prevAt s.keys (min ix s.len)) s.keys[min ix s.len]?
      (OrdDot.ofDot (s.clock.inc a))) x := by
  simp only [insertIndex]
  cases min ix s.len <;> rfl

theorem insertIndex_value (s : ListCrdt τ α) (ix : Nat) (x : τ) (a : α) :
    (s.insertIndex ix x a).id.value = some (OrdDot.ofDot (s.clock.inc a)) := by
  rewrite [insertIndex_eq]
  exact value_between_at s.keys_sorted _ _

theorem insertIndex_dot (s : ListCrdt τ α) (ix : Nat) (x : τ) (a : α) :
    (s.insertIndex ix x a).dot = some (s.clock.inc a) := by
  have h := insertIndex_value s ix x a
  rewrite [insertIndex_eq] at h ⊢
  exact congrArg (Option.map OrdDot.toDot) h

theorem insertIndex_id_nonempty (s : ListCrdt τ α) (ix : Nat) (x : τ) (a : α) :
    (s.insertIndex ix x a).id.path ≠ [] :=
  ne_nil_of_value (insertIndex_value s ix x a)

theorem deleteIndex_eq_some_iff {s : ListCrdt τ α} {ix : Nat} {a : α} {op : ListOp τ α} :
    s.deleteIndex ix a = some op ↔ ∃ id, s.keys[ix]? = some id ∧ .delete id (s.clock.inc a) = op := by
  simp only [deleteIndex, Option.map_eq_some_iff]

theorem deleteIndex_id_nonempty {s : ListCrdt τ α} (hs : s.IdsNonEmpty) {ix : Nat} {a : α} {op : ListOp τ α}
    (h : s.deleteIndex ix a = some op) : op.id.path ≠ [] := by
  obtain ⟨id, hk, rfl⟩ := deleteIndex_eq_some_iff.mp h
  exact hs id (List.mem_of_getElem? hk)

theorem _root_.Crdt.VClock.inc_not_gated (c : VClock α) (a : α) : ¬ (c.inc a).counter ≤ c.get (c.inc a).actor :=
  Nat.not_succ_le_self (c.get a)

theorem insertEntry_of_get?_none {seq : FMap (Identifier (OrdDot α)) τ} {id : Identifier (OrdDot α)}
    (h : seq.get? id = none) (v : τ) : insertEntry seq id v = seq.insert id v := by
  rewrite [insertEntry, FMap.contains, h]; rfl

theorem apply?_of_dot (s : ListCrdt τ α) {op : ListOp τ α} {d : Dot α} (hd : op.dot = some d) :
    s.apply? op = some (if d.counter ≤ s.clock.get d.actor then s else
      ⟨match (generalizing := false) op with | .insert id v => insertEntry s.seq id v | .delete id _ => s.seq.erase id,
        s.clock.apply d⟩) := by
  simp only [apply?, hd]
  split
  · rfl
  · cases op <;> rfl

theorem apply_of_apply? {s s' : ListCrdt τ α} {op : ListOp τ α} (h : s.apply? op = some s') : s.apply op = s' := by
  rewrite [apply, h]; rfl

/-- ANY op preserves the invariant: an insert op with the empty identifier makes `apply` panic -/
theorem idsNonEmpty_apply? {s s' : ListCrdt τ α} (hs : s.IdsNonEmpty) {op : ListOp τ α}
    (h : s.apply? op = some s') : s'.IdsNonEmpty := by
  cases hd : op.dot with
  | none => simp [apply?, hd] at h
  | some d =>
    rewrite [apply?_of_dot s hd, Option.some.injEq] at h
    subst h
    split
    · exact hs
    · intro i hi
      cases op with
      | delete id _ => exact hs i (AL.keys_erase_subset hi)
      | insert id v =>
        simp only [keys, insertEntry] at hi
        split at hi
        · exact hs i hi
        · exact (AL.keys_insert_subset hi).elim (· ▸ ListOp.id_nonempty_of_dot hd) (hs i)

end ListCrdt
end Crdt
