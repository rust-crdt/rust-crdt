import CrdtModel.Proofs.ResetRemove
import CrdtModel.Proofs.MVReg
/-! `MVReg::reset_remove` is a `filterMap` of the `Vec` (order preserved) by the clock step `VClock.rrClock` with the value
carried along (`resetRemove_vals`), so its laws are those of `rrClock`, entry by entry. -/
namespace Crdt
namespace MVReg
variable {ν α : Type} [LinOrd α]

/-- invariant of the stored entries: clocks store no zero and are non-empty
(what `apply`/`merge` maintain on logs without stored zeros – `C18.mvreg_reach_wf`) -/
def ValsWF (s : MVReg ν α) : Prop := ∀ p ∈ s.vals, p.1.NoZero ∧ p.1.isEmpty = false

/-- the closure of src/mvreg.rs:93-100 -/
def rrStep (c : VClock α) (p : VClock α × ν) : Option (VClock α × ν) :=
  (VClock.rrClock c p.1).map (fun k => (k, p.2))

theorem resetRemove_vals (s : MVReg ν α) (c : VClock α) : (s.resetRemove c).vals = s.vals.filterMap (rrStep c) := by
  simp only [resetRemove]
  congr 1
  funext p
  by_cases h : (p.1.resetRemove c).isEmpty = true <;> simp [rrStep, VClock.rrClock, h]

theorem rrStep_eq {p : VClock α × ν} (hp : p.1.NoZero) (c : VClock α) :
    rrStep c p = if c.ge p.1 then none else some (p.1.resetRemove c, p.2) := by
  rewrite [rrStep, VClock.rrClock_eq hp]; cases c.ge p.1 <;> rfl

theorem ext {a b : MVReg ν α} (h : a.vals = b.vals) : a = b := by
  cases a; cases b; exact congrArg mk h

theorem resetRemove_resetRemove_vals (s : MVReg ν α) (c1 c2 : VClock α) :
    ((s.resetRemove c1).resetRemove c2).vals =
      s.vals.filterMap fun p => ((VClock.rrClock c1 p.1).bind (VClock.rrClock c2)).map (fun k => (k, p.2)) := by
  rewrite [resetRemove_vals, resetRemove_vals, List.filterMap_filterMap]
  exact List.filterMap_congr fun p _ => by unfold rrStep; cases VClock.rrClock c1 p.1 <;> rfl

theorem resetRemove_comp {c1 c2 c3 : VClock α} (h : VClock.RRComp c1 c2 c3) {s : MVReg ν α} (wf : ValsWF s) :
    (s.resetRemove c1).resetRemove c2 = s.resetRemove c3 := by
  apply ext
  rewrite [resetRemove_resetRemove_vals, resetRemove_vals]
  exact List.filterMap_congr fun p hp => by rw [VClock.rrClock_comp h (wf p hp).1, rrStep]

theorem resetRemove_comm (s : MVReg ν α) (c1 c2 : VClock α) :
    (s.resetRemove c1).resetRemove c2 = (s.resetRemove c2).resetRemove c1 :=
  ext (by simp only [resetRemove_resetRemove_vals, VClock.rrClock_comm])

theorem resetRemove_empty {s : MVReg ν α} (wf : ValsWF s) : s.resetRemove ∅ = s := by
  apply ext
  rw [resetRemove_vals, List.filterMap_congr (g := some) fun p hp => ?_, List.filterMap_some]
  rewrite [rrStep, VClock.rrClock_empty (wf p hp).2]; rfl

theorem mem_resetRemove {s : MVReg ν α} (wf : ValsWF s) (c : VClock α) (q : VClock α × ν) :
    q ∈ (s.resetRemove c).vals ↔ ∃ p ∈ s.vals, ¬ p.1.le c ∧ q = (p.1.resetRemove c, p.2) := by
  rewrite [resetRemove_vals, List.mem_filterMap]
  refine exists_congr fun p => and_congr_right fun hp => ?_
  rewrite [rrStep_eq (wf p hp).1, ← VClock.ge_iff c p.1]
  cases c.ge p.1 <;> simp [eq_comm]

theorem valsWF_resetRemove {s : MVReg ν α} (wf : ValsWF s) (c : VClock α) : ValsWF (s.resetRemove c) := by
  intro q hq
  obtain ⟨p, hp, hn, rfl⟩ := (mem_resetRemove wf c q).mp hq
  exact ⟨VClock.noZero_resetRemove (wf p hp).1 c,
    Bool.eq_false_iff.mpr fun he => hn ((VClock.isEmpty_resetRemove_iff (wf p hp).1 c).mp he)⟩

theorem resetRemove_of_covers {s : MVReg ν α} (wf : ValsWF s) {c : VClock α} (h : ∀ p ∈ s.vals, p.1.le c) :
    s.resetRemove c = init := by
  refine ext ((resetRemove_vals s c).trans (List.filterMap_eq_nil_iff.mpr fun p hp => ?_))
  rw [rrStep_eq (wf p hp).1, if_pos ((VClock.ge_iff c p.1).mpr (h p hp))]

end MVReg
end Crdt
