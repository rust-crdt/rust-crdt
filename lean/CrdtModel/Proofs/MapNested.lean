import CrdtModel.Spec.MapKeys
import CrdtModel.Model.MapInst
set_option linter.unusedSectionVars false -- a few lemmas do not use the `[LinOrd _]` binders they get from the `variable` lines
/-! The region "op-only histories without key removes" of the Map model (`ReachUp`), for `Props/C05Nested.lean`.
In this region `deferred` stays empty, the dedup gate of `Map::apply` fires exactly on re-delivered dots (and on the
degenerate counter-0 dots: `Reach.gate_iff`, Spec/MapKeys.lean), and therefore the nested value under a key is the left fold of
the nested ops of that key in delivery order, each dot applied once (`nested_ind`).  Hence it is a
derivable state of the value type's own representation system (`nested_reach`), with the nested `Orswot` as the instance whose
discipline has to be derived. -/
namespace Crdt
namespace CMap
variable {K V VOp A : Type} [LinOrd K] [LinOrd A]

/-- derivable Map states of **op-only histories without key removes**: `CMap.Reach` minus the `merge` constructor and with
every applied op an update `.up d k o`; the discipline premise is the one of `CMap.Reach` (`keyOp (.up d k o) = .add d [k]`) -/
inductive ReachUp (ops : ValOps V VOp A) (U : List (MapOp K VOp A)) : CMap K V A → List (MapOp K VOp A) → Prop
  | init : ReachUp ops U CMap.init []
  | apply {s L d k o} : ReachUp ops U s L → MapOp.up d k o ∈ U →
      OrswotSpec.Ok (keyLog U) (keyLog L) (keyOp (MapOp.up d k o : MapOp K VOp A)) →
      ReachUp ops U (CMap.apply ops s (.up d k o)) (.up d k o :: L)

section generic
variable {ops : ValOps V VOp A} {U L L' : List (MapOp K VOp A)} {s : CMap K V A}

theorem ReachUp.toReach (h : ReachUp ops U s L) : Reach ops U s L := by
  induction h with
  | init => exact Reach.init
  | apply _ hu hok ih => exact Reach.apply ih hu hok

theorem ReachUp.sub (h : ReachUp ops U s L) : ∀ x ∈ L, x ∈ U := h.toReach.sub

theorem applyDeferred_of_empty (ops : ValOps V VOp A) (s : CMap K V A) (h : s.deferred = ∅) :
    applyDeferred ops s = s := by
  cases s with | mk c e d =>
  cases h
  rfl

theorem apply_up_of_empty (ops : ValOps V VOp A) (s : CMap K V A) (d : Dot A) (k : K) (o : VOp) (h : s.deferred = ∅) :
    apply ops s (.up d k o) =
      if s.clock.get d.actor ≥ d.counter then s
      else { s with
        entries := s.entries.insert k
          ⟨((s.entries.get? k).getD ⟨∅, ops.default⟩).clock.apply d, ops.apply ((s.entries.get? k).getD ⟨∅, ops.default⟩).val o⟩
        clock := s.clock.apply d } :=
  -- `apply` unfolds to an `if` on the same test
  ite_congr rfl (fun _ => rfl) fun _ => applyDeferred_of_empty ops _ h

theorem ReachUp.deferred_empty (h : ReachUp ops U s L) : s.deferred = ∅ := by
  induction h with
  | init => rfl
  | @apply s _ d k o _ _ _ ih => rewrite [apply_up_of_empty ops s d k o ih, apply_ite CMap.deferred]; exact (ite_self _).trans ih

/-- does the dot `d` occur (as the dot of an update, of any key) in the log? -/
def dotIn (d : Dot A) : List (MapOp K VOp A) → Bool
  | [] => false
  | .rm _ _ :: L => dotIn d L
  | .up d' _ _ :: L => decide (d' = d) || dotIn d L

/-- the nested ops delivered for key `k`, in chronological order (the log is built by consing, so the head is the NEWEST
delivery), each dot once: a delivery whose dot already occurs earlier is a re-delivery and is skipped; so is a delivery whose
dot has counter 0 (not a dot any API call produces – `VClock::inc` starts at 1 – and `Map::apply` ignores it because
`clock.get(actor) >= 0` always holds).  Oldest first, so that the nested value is the plain `foldl ops.apply` over it
(`val_eq_fold`); a `RepSys` knowledge list is newest first, hence the `.reverse` in `nested_ind` and `nested_reach`. -/
def nestedOps (k : K) : List (MapOp K VOp A) → List VOp
  | [] => []
  | .rm _ _ :: L => nestedOps k L
  | .up d k' o :: L =>
    if k' = k ∧ 0 < d.counter ∧ dotIn d L = false then nestedOps k L ++ [o] else nestedOps k L

/-- the plain "first occurrences" reading (no special case for counter 0); equal to `nestedOps` when counters are positive -/
def firstOps (k : K) : List (MapOp K VOp A) → List VOp
  | [] => []
  | .rm _ _ :: L => firstOps k L
  | .up d k' o :: L => if k' = k ∧ dotIn d L = false then firstOps k L ++ [o] else firstOps k L

/-- the value `Map::update` hands to its closure (same expression as in `CMap.update`): `default` when `k` is absent -/
def nestedVal (ops : ValOps V VOp A) (s : CMap K V A) (k : K) : V := ((s.entries.get? k).map (·.val)).getD ops.default

theorem dotIn_iff {d : Dot A} : dotIn d L = true ↔ ∃ k o, MapOp.up d k o ∈ L := by
  induction L with
  | nil => simp only [dotIn, Bool.false_eq_true, List.not_mem_nil, exists_false]
  | cons x L ih =>
    cases x with
    | rm c ks => simp only [dotIn, ih, List.mem_cons, reduceCtorEq, false_or]
    | up d' k' o' =>
      simp only [dotIn, Bool.or_eq_true, decide_eq_true_eq, ih, List.mem_cons, MapOp.up.injEq, exists_or]
      exact or_congr ⟨fun e => ⟨k', o', e.symm, rfl, rfl⟩, fun ⟨_, _, e, _⟩ => e.symm⟩ Iff.rfl

theorem val_apply_up (ops : ValOps V VOp A) (s : CMap K V A) (d : Dot A) (k' : K) (o : VOp) (h : s.deferred = ∅) (k : K) :
    ((apply ops s (.up d k' o)).entries.get? k).map (·.val) =
      if k' = k ∧ ¬ s.clock.get d.actor ≥ d.counter then some (ops.apply (nestedVal ops s k) o)
      else (s.entries.get? k).map (·.val) := by
  rewrite [apply_up_of_empty ops s d k' o h]
  by_cases g : s.clock.get d.actor ≥ d.counter
  · rw [if_pos g, if_neg (fun x => x.2 g)]
  · rewrite [if_neg g]
    simp only [FMap.get?_insert]
    by_cases e : k = k'
    · subst e
      rewrite [if_pos rfl, if_pos ⟨rfl, g⟩]
      simp only [Option.map_some, nestedVal]
      cases s.entries.get? k <;> rfl
    · rw [if_neg e, if_neg (fun x => e x.1.symm)]

theorem clock_apply_up (ops : ValOps V VOp A) (s : CMap K V A) (d : Dot A) (k : K) (o : VOp)
    (hdef : s.deferred = ∅) (g : ¬ s.clock.get d.actor ≥ d.counter) : (apply ops s (.up d k o)).clock = s.clock.apply d := by
  rw [apply_up_of_empty ops s d k o hdef, if_neg g]

theorem nestedVal_apply_up (ops : ValOps V VOp A) (s : CMap K V A) (d : Dot A) (k : K) (o : VOp)
    (hdef : s.deferred = ∅) (g : ¬ s.clock.get d.actor ≥ d.counter) (k2 : K) :
    nestedVal ops (apply ops s (.up d k o)) k2 = (if k = k2 then ops.apply (nestedVal ops s k) o else nestedVal ops s k2) := by
  rewrite [nestedVal, val_apply_up ops s d k o hdef k2]
  by_cases e : k = k2
  · subst e; rewrite [if_pos ⟨rfl, g⟩, if_pos rfl]; rfl
  · rewrite [if_neg (fun x => e x.1), if_neg e]; rfl

/-- induction along a derivation of the region, read at one key: the nested value under `k` (`none` while `k` is absent) with
the nested knowledge `(nestedOps k L).reverse` (newest first, as in `RepSys.Reach`); a step is a first delivery of an update of
`k` with a genuine dot, every other delivery changes neither -/
theorem nested_ind (wf : OrswotSpec.LogWF (keyLog U)) (k : K) {P : Option V → List VOp → Prop} (h0 : P none [])
    (hstep : ∀ {s L d o}, ReachUp ops U s L → MapOp.up d k o ∈ U →
      OrswotSpec.Ok (keyLog U) (keyLog L) (.add d [k]) → 0 < d.counter → dotIn d L = false →
      P ((s.entries.get? k).map (·.val)) (nestedOps k L).reverse →
      P (some (ops.apply (nestedVal ops s k) o)) (o :: (nestedOps k L).reverse))
    (h : ReachUp ops U s L) : P ((s.entries.get? k).map (·.val)) (nestedOps k L).reverse := by
  induction h with
  | init => exact h0
  | @apply s L d k' o h hu hok ih =>
    -- along a derivation the clock test of `val_apply_up` is "positive counter, dot not yet delivered"
    have hg : ¬ s.clock.get d.actor ≥ d.counter ↔ 0 < d.counter ∧ dotIn d L = false := by
      rw [h.toReach.gate_iff wf hu, ← dotIn_iff, not_or, Bool.not_eq_true, Nat.pos_iff_ne_zero]
    rewrite [val_apply_up ops s d k' o h.deferred_empty, nestedOps]
    simp only [hg]
    split
    · next c =>
      obtain ⟨rfl, hp, hn⟩ := c
      rewrite [List.reverse_append]
      exact hstep h hu hok hp hn ih
    · exact ih

theorem val_eq_fold (wf : OrswotSpec.LogWF (keyLog U)) (h : ReachUp ops U s L) (k : K) :
    (s.entries.get? k).map (·.val) =
      if nestedOps k L = [] then none else some ((nestedOps k L).foldl ops.apply ops.default) := by
  -- motive: the value is the `foldr` over the newest-first knowledge; `foldr_reverse` turns that into the stated `foldl`
  simpa only [List.reverse_eq_nil_iff, List.foldr_reverse] using
    nested_ind wf k (P := fun v Kn => v = if Kn = [] then none else some (Kn.foldr (fun o v => ops.apply v o) ops.default))
      rfl (fun {s L _ o} _ _ _ _ _ ih => by
        rewrite [if_neg (List.cons_ne_nil _ _), nestedVal, ih]
        split
        · next e => rewrite [e]; rfl
        · rfl) h

/-- a dot names one update (what generating every update through `Map::update` with a fresh add context guarantees) -/
def DotsUnique (U : List (MapOp K VOp A)) : Prop :=
  ∀ d k o k' o', MapOp.up d k o ∈ U → MapOp.up d k' o' ∈ U → k = k' ∧ o = o'

theorem dotsUnique_of_nodup (hn : ((keyLog U).filterMap OrswotSpec.addDot).Nodup) : DotsUnique U := by
  rewrite [keyLog, List.filterMap_map] at hn
  exact fun d _ _ _ _ h1 h2 => by cases List.eq_of_nodup_filterMap hn h1 h2 d rfl rfl; exact ⟨rfl, rfl⟩

theorem logWF_keyLog (hdu : DotsUnique U) (hrm : ∀ c ks, MapOp.rm c ks ∈ U → c.NoZero) : OrswotSpec.LogWF (keyLog U) := by
  refine ⟨fun d ms ms' h1 h2 => ?_, fun c ks h => hrm c ks (mem_keyLog_rm.mp h)⟩
  obtain ⟨k, o, rfl, u1⟩ := mem_keyLog_add.mp h1
  obtain ⟨k', o', rfl, u2⟩ := mem_keyLog_add.mp h2
  rw [(hdu d k o k' o' u1 u2).1]

/-- the discipline premise as a finite check over a concrete universe: every update dot of `U` that precedes `d` has been delivered -/
theorem ReachUp.step (hdu : DotsUnique U) (h : ReachUp ops U s L) {d : Dot A} {k : K} {o : VOp} (hu : MapOp.up d k o ∈ U)
    (hp : ∀ d' ∈ (keyLog U).filterMap OrswotSpec.addDot, d'.actor = d.actor → d'.counter < d.counter → dotIn d' L = true) :
    ReachUp ops U (CMap.apply ops s (.up d k o)) (.up d k o :: L) := by
  refine h.apply hu fun d' ms' hin ha hlt => ?_
  obtain ⟨k', o', rfl, hu'⟩ := mem_keyLog_add.mp hin
  obtain ⟨k2, o2, h2⟩ := dotIn_iff.mp (hp d' (List.mem_filterMap.mpr ⟨_, hin, rfl⟩) ha hlt)
  obtain ⟨rfl, rfl⟩ := hdu d' k' o' k2 o2 hu' (h.sub _ h2)
  exact up_mem_keyLog h2

theorem mem_nestedOps {k : K} {o : VOp} (hdu : DotsUnique U) (hsub : ∀ x ∈ L, x ∈ U) :
    o ∈ nestedOps k L ↔ ∃ d, 0 < d.counter ∧ MapOp.up d k o ∈ L := by
  induction L with
  | nil => simp [nestedOps]
  | cons x L ih =>
    obtain ⟨hx, hL⟩ := List.forall_mem_cons.mp hsub
    simp only [List.mem_cons, and_or_left, exists_or, ← ih hL]
    -- to show: `o ∈ nestedOps k (x :: L) ↔ (∃ d, 0 < d.counter ∧ .up d k o = x) ∨ o ∈ nestedOps k L`
    cases x with
    | rm c ks => simp [nestedOps]
    | up d' k' o' =>
      rewrite [nestedOps]
      split
      · next c =>
        rewrite [List.mem_append, List.mem_singleton, or_comm]
        refine or_congr ⟨fun e => ⟨d', c.2.1, by rw [e, c.1]⟩, ?_⟩ Iff.rfl
        rintro ⟨d, _, e⟩; cases e; rfl
      · next c =>
        refine (or_iff_right_of_imp ?_).symm
        rintro ⟨d, hp, e⟩; cases e
        -- a re-delivered dot carries the same op as its first delivery
        obtain ⟨k2, o2, h2⟩ := dotIn_iff.mp (Bool.of_not_eq_false fun hn => c ⟨rfl, hp, hn⟩)
        obtain ⟨rfl, rfl⟩ := hdu _ _ _ k2 o2 hx (hL _ h2)
        exact (ih hL).mpr ⟨_, hp, h2⟩

theorem nestedOps_mem_congr (hdu : DotsUnique U) (k : K) (hs : ∀ x ∈ L, x ∈ U) (hs' : ∀ x ∈ L', x ∈ U)
    (e : ∀ d o, MapOp.up d k o ∈ L ↔ MapOp.up d k o ∈ L') (o : VOp) : o ∈ nestedOps k L ↔ o ∈ nestedOps k L' := by
  simp only [mem_nestedOps hdu hs, mem_nestedOps hdu hs', e]

/-- the nested universe of key `k`: the nested ops of all updates of `k` ever generated -/
def valU (k : K) (U : List (MapOp K VOp A)) : List VOp :=
  U.filterMap (fun x => match x with
    | .up _ k' o => if k' = k then some o else none
    | .rm _ _ => none)

theorem mem_valU {k : K} {o : VOp} : o ∈ valU k U ↔ ∃ d, MapOp.up d k o ∈ U := by
  simp only [valU, List.mem_filterMap]
  constructor
  · rintro ⟨x, hx, e⟩
    cases x with
    | rm c ks => cases e
    | up d k' o' =>
      obtain ⟨rfl, ⟨⟩⟩ := Option.ite_none_right_eq_some.mp e
      exact ⟨d, hx⟩
  · rintro ⟨d, hd⟩
    exact ⟨_, hd, if_pos rfl⟩

/-- at any derivable state, a FRESH update of `k` that the Map-level discipline allows carries a nested op that the nested
discipline allows at the nested knowledge of `k` -/
def NestedOk (ops : ValOps V VOp A) (U : List (MapOp K VOp A)) (k : K) (Ok : List VOp → List VOp → VOp → Prop) : Prop :=
  ∀ {s L d o}, ReachUp ops U s L → MapOp.up d k o ∈ U →
    OrswotSpec.Ok (keyLog U) (keyLog L) (.add d [k]) → 0 < d.counter → dotIn d L = false →
    Ok (valU k U) (nestedOps k L).reverse o

/-- the nested value under `k` is a derivable state of the value type's system, with knowledge `nestedOps k L` -/
theorem nested_reach (R : RepSys V VOp) (hA : R.apply = ops.apply) (hI : R.init = ops.default)
    (wf : OrswotSpec.LogWF (keyLog U)) (k : K) (hOk : NestedOk ops U k R.Ok) (h : ReachUp ops U s L) :
    R.Reach (valU k U) (nestedVal ops s k) (nestedOps k L).reverse :=
  nested_ind wf k (P := fun v Kn => R.Reach (valU k U) (v.getD ops.default) Kn) (hI ▸ .init)
    (fun h hu hok hp hn ih => hA ▸ .apply ih (mem_valU.mpr ⟨_, hu⟩) (hOk h hu hok hp hn)) h

theorem nested_convergeE_of_same_nestedOps {s' : CMap K V A} (R : RepSysE V VOp) (hA : R.apply = ops.apply) (hI : R.init = ops.default)
    (wf : OrswotSpec.LogWF (keyLog U)) (k : K) (wfR : R.WF (valU k U)) (hOk : NestedOk ops U k R.Ok)
    (h : ReachUp ops U s L) (h' : ReachUp ops U s' L') (e : ∀ o, o ∈ nestedOps k L ↔ o ∈ nestedOps k L') :
    ((s.entries.get? k).map (·.val)).isSome = ((s'.entries.get? k).map (·.val)).isSome ∧
      R.Equiv (nestedVal ops s k) (nestedVal ops s' k) := by
  -- `nested_reach` once more: `RepSys.Reach` and `RepSysE.Reach` are two inductive types related only by `RepSys.Reach.toE`,
  -- which goes the wrong way to obtain this from the statement for `RepSys`
  have reach {s L} (h : ReachUp ops U s L) : R.Reach (valU k U) (nestedVal ops s k) (nestedOps k L).reverse :=
    nested_ind wf k (P := fun v Kn => R.Reach (valU k U) (v.getD ops.default) Kn) (hI ▸ .init)
      (fun h hu hok hp hn ih => hA ▸ .apply ih (mem_valU.mpr ⟨_, hu⟩) (hOk h hu hok hp hn)) h
  refine ⟨?_, RepSysE.converge wfR (reach h) (reach h') (by intro o; simp only [List.mem_reverse]; exact e o)⟩
  have hn : nestedOps k L = [] ↔ nestedOps k L' = [] := by simp only [List.eq_nil_iff_forall_not_mem, e]
  simp only [val_eq_fold wf h k, val_eq_fold wf h' k, apply_ite Option.isSome, hn, Option.isSome_some]
end generic

/-! Nested `Orswot`: the Map-level discipline (updates of each actor in issue order) implies the nested one (adds of each
actor in issue order), because a nested add made through `Map::update` carries the dot of the Map op. -/
section orswotNested
variable {M : Type} [LinOrd M] {U L : List (MapOp K (OrswotOp M A) A)}

/-- what generating the updates of `k` through `m.update(k, ctx, |set, ctx| set.add(x, ctx))` /
`m.update(k, ctx, |set, _| set.rm(x, set.contains(&x).derive_rm_ctx()))` guarantees -/
structure NestedOrswotWF (k : K) (U : List (MapOp K (OrswotOp M A) A)) : Prop where
  /-- the nested add is made with the add context of the update: same dot -/
  same_dot : ∀ d d' ms, MapOp.up d k (OrswotOp.add d' ms) ∈ U → d' = d
  /-- `VClock::inc` never yields counter 0 -/
  pos : ∀ d o, MapOp.up d k o ∈ U → 0 < d.counter
  /-- nested remove contexts are state clocks -/
  rm_nz : ∀ d c ms, MapOp.up d k (OrswotOp.rm c ms) ∈ U → c.NoZero

theorem orswot_valU_wf {k : K} (hdu : DotsUnique U) (hw : NestedOrswotWF k U) : OrswotSpec.LogWF (valU k U) := by
  refine ⟨fun d ms ms' h1 h2 => ?_, fun c ms h => ?_⟩
  · obtain ⟨d1, h1⟩ := mem_valU.mp h1
    obtain ⟨d2, h2⟩ := mem_valU.mp h2
    cases hw.same_dot d1 d ms h1
    cases hw.same_dot d2 d ms' h2
    exact (OrswotOp.add.inj (hdu d k _ k _ h1 h2).2).2
  · obtain ⟨d, h⟩ := mem_valU.mp h
    exact hw.rm_nz d c ms h

theorem orswot_nestedOk {k : K} (hdu : DotsUnique U) (hw : NestedOrswotWF k U) :
    NestedOk (Orswot.valOps (M := M) (A := A)) U k OrswotSpec.Ok := by
  intro s L d o h hu hok hp hn
  cases o with
  | rm c ms => trivial
  | add d' ms =>
    cases hw.same_dot d d' ms hu
    -- the predecessor the nested discipline asks for is the nested op of the update the Map discipline asks for
    intro d2 ms2 hin ha hlt
    obtain ⟨d3, h3⟩ := mem_valU.mp hin
    cases hw.same_dot d3 d2 ms2 h3
    obtain ⟨k2, o2, ek, h2⟩ := mem_keyLog_add.mp (hok d2 [k] (up_mem_keyLog h3) ha hlt)
    cases ek
    cases (hdu d2 k _ k _ h3 (h.sub _ h2)).2
    exact List.mem_reverse.mpr ((mem_nestedOps hdu h.sub).mpr ⟨d2, hw.pos d2 _ h3, h2⟩)

end orswotNested

end CMap
end Crdt
