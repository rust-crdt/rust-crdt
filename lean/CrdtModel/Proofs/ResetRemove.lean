import CrdtModel.Proofs.VClock
import CrdtModel.Proofs.Lattice
set_option linter.unusedSectionVars false -- `AL.filterMap_eq_filter` needs no order on the keys
/-! `VClock::reset_remove`, the base of every other type's `reset_remove`.

On the stored counters it is a pointwise `filter` by a test on the context alone (`get?_rr`), so two of them commute and
one is idempotent, for ALL clocks; on zero-free clocks two in a row are one with the join.  `RRComp` is the
shape through which the container types lift join and idempotence with one proof.  The lemmas
on `rrClock` are the clock laws as equations between `Option.bind`s, the form the containers use.  `AL.sumVals_filterMap_le`:
a counter's total does not grow (hence the import of `Proofs/Lattice`); `resetRemove_dots` is what `C18.gcounter_read` sums. -/
namespace Crdt
namespace AL
variable {κ : Type} [LinOrd κ]

theorem filterMap_eq_filter {ν : Type} (f : κ → ν → Bool) (l : List (κ × ν)) :
    filterMap (fun a n => if f a n then some n else none) l = l.filter (fun p => f p.1 p.2) := by
  induction l with
  | nil => rfl
  | cons hd t ih => rewrite [filterMap, List.filter_cons, ih]; cases f hd.1 hd.2 <;> rfl

theorem sumVals_filterMap_le (f : κ → Nat → Bool) (l : List (κ × Nat)) :
    sumVals (filterMap (fun a n => if f a n then some n else none) l) ≤ sumVals l := by
  rewrite [filterMap_eq_filter]
  induction l with
  | nil => exact Nat.le_refl _
  | cons hd t ih =>
    rewrite [List.filter_cons]
    cases f hd.1 hd.2
    · exact Nat.le_trans ih (Nat.le_add_left _ hd.2)
    · exact Nat.add_le_add_left ih hd.2

end AL

namespace VClock
variable {α : Type} [LinOrd α]

theorem get?_rr (s c : VClock α) (a : α) :
    (s.resetRemove c).dots.get? a = (s.dots.get? a).filter (fun v => (c.dots.get? a).all (· < v)) := by
  rewrite [get?_resetRemove, get]
  cases s.dots.get? a with
  | none => cases c.dots.get? a <;> rfl
  | some v =>
    cases c.dots.get? a with
    | none => rfl
    | some n => simp [Option.filter_some, ← Nat.not_lt]

theorem get?_resetRemove_of_noZero {s : VClock α} (hs : s.NoZero) (c : VClock α) (a : α) :
    (s.resetRemove c).dots.get? a = if s.get a > c.get a then s.dots.get? a else none := by
  rewrite [(noZero_resetRemove hs c).get?_eq, get_resetRemove, hs.get?_eq]
  by_cases h : s.get a > c.get a <;> simp [h]

theorem resetRemove_empty (s : VClock α) : s.resetRemove ∅ = s := rfl

theorem resetRemove_self (s : VClock α) : s.resetRemove s = ∅ :=
  ext_get? fun a => by
    rewrite [get?_resetRemove]
    cases h : s.dots.get? a with
    | none => rfl
    | some n => simp [get_eq_of_get? h]; rfl

theorem isEmpty_resetRemove_iff {s : VClock α} (hs : s.NoZero) (c : VClock α) :
    (s.resetRemove c).isEmpty = true ↔ s.le c := by
  rewrite [isEmpty_iff_get (noZero_resetRemove hs c)]
  refine forall_congr' fun a => ?_
  rewrite [get_resetRemove]
  split
  · next h => exact iff_of_false (Nat.ne_of_gt (Nat.zero_lt_of_lt h)) (Nat.not_le_of_gt h)
  · next h => exact iff_of_true rfl (Nat.le_of_not_gt h)

theorem resetRemove_nonempty_of_not_ge {c k : VClock α} (hc : c.NoZero) (h : ¬ k.ge c = true) :
    (c.resetRemove k).isEmpty = false :=
  Bool.eq_false_iff.mpr fun he => h ((ge_iff k c).mpr ((isEmpty_resetRemove_iff hc k).mp he))

theorem resetRemove_eq_empty_iff {s : VClock α} (hs : s.NoZero) (c : VClock α) :
    s.resetRemove c = ∅ ↔ s.le c := by
  rewrite [← isEmpty_resetRemove_iff hs c]
  exact ⟨fun e => e ▸ rfl, eq_empty_of_isEmpty⟩

theorem resetRemove_of_le {s c : VClock α} (hs : s.NoZero) (h : s.le c) : s.resetRemove c = ∅ :=
  (resetRemove_eq_empty_iff hs c).mpr h

theorem empty_resetRemove (c : VClock α) : (∅ : VClock α).resetRemove c = ∅ :=
  resetRemove_of_le noZero_empty (fun a => by simp)

/-- "`c1` then `c2` behaves like `c3`" on every zero-free clock -/
def RRComp (c1 c2 c3 : VClock α) : Prop :=
  ∀ d : VClock α, d.NoZero → (d.resetRemove c1).resetRemove c2 = d.resetRemove c3

/-- Not a fact about filters: the test against the join differs because `merge` does not take over a stored zero.  For
`s = {x:0}`, `c1 = ∅`, `c2 = {x:0}` the left side is `∅` and the right side `s`; hence `NoZero`, here and in `RRComp`. -/
theorem resetRemove_resetRemove {s : VClock α} (hs : s.NoZero) (c1 c2 : VClock α) :
    (s.resetRemove c1).resetRemove c2 = s.resetRemove (c1.merge c2) := by
  apply ext_get (noZero_resetRemove (noZero_resetRemove hs c1) c2) (noZero_resetRemove hs _)
  intro a
  -- `s > max c1 c2` iff `s > c1` and `s > c2`; if `s > c1` fails both sides are `0`
  simp only [get_resetRemove, get_merge, gt_iff_lt, Nat.max_lt]
  by_cases h1 : c1.get a < s.get a <;> simp [h1]

theorem rrComp_merge (c1 c2 : VClock α) : RRComp c1 c2 (c1.merge c2) :=
  fun _ hd => resetRemove_resetRemove hd c1 c2

theorem resetRemove_idem (s c : VClock α) : (s.resetRemove c).resetRemove c = s.resetRemove c :=
  ext_get? fun a => by simp only [get?_rr, Option.filter_filter, Bool.and_self]

theorem rrComp_idem (c : VClock α) : RRComp c c c := fun d _ => resetRemove_idem d c

theorem resetRemove_comm (s c1 c2 : VClock α) :
    (s.resetRemove c1).resetRemove c2 = (s.resetRemove c2).resetRemove c1 :=
  ext_get? fun a => by simp only [get?_rr, Option.filter_filter, Bool.and_comm]

theorem RRComp.swap {c1 c2 c3 : VClock α} (h : RRComp c1 c2 c3) : RRComp c2 c1 c3 :=
  fun d hd => (resetRemove_comm d c2 c1).trans (h d hd)

theorem resetRemove_le (s c : VClock α) : (s.resetRemove c).le s := fun a => by
  rewrite [get_resetRemove]
  split
  · exact Nat.le_refl _
  · exact Nat.zero_le _

theorem resetRemove_dots {s : VClock α} (hs : s.NoZero) (c : VClock α) :
    (s.resetRemove c).dots.l = s.dots.l.filter (fun p => decide (p.2 > c.get p.1)) := by
  have h : (s.resetRemove c).dots = s.dots.filterMap (fun a n => if decide (n > c.get a) then some n else none) := by
    apply FMap.ext
    intro a
    rewrite [get?_resetRemove_of_noZero hs, FMap.get?_filterMap]
    cases hg : s.dots.get? a with
    | none => exact ite_self _
    | some n => simp only [get_eq_of_get? hg, decide_eq_true_eq, Option.bind_some]
  rewrite [h]; exact AL.filterMap_eq_filter _ _

/-- the per-clock step shared by `MVReg::reset_remove`, `Orswot::reset_remove` and, on the entry clocks,
`Map::reset_remove`: subtract, and drop the holder if nothing is left -/
def rrClock (c vc : VClock α) : Option (VClock α) :=
  if (vc.resetRemove c).isEmpty then none else some (vc.resetRemove c)

theorem rrClock_eq {vc : VClock α} (hv : vc.NoZero) (c : VClock α) :
    rrClock c vc = if c.ge vc then none else some (vc.resetRemove c) := by
  rw [rrClock, Bool.eq_iff_iff.mpr ((isEmpty_resetRemove_iff hv c).trans (ge_iff c vc).symm)]

/-- a clock the first subtraction emptied stays empty, so the emptiness test between two subtractions can be skipped -/
theorem rrClock_bind (c1 c2 vc : VClock α) :
    (rrClock c1 vc).bind (rrClock c2) = rrClock c2 (vc.resetRemove c1) := by
  unfold rrClock
  by_cases h : (vc.resetRemove c1).isEmpty = true
  · simp [eq_empty_of_isEmpty h, empty_resetRemove, isEmpty_empty]
  · simp [h]

theorem rrClock_comp {c1 c2 c3 : VClock α} (h : RRComp c1 c2 c3) {vc : VClock α} (hv : vc.NoZero) :
    (rrClock c1 vc).bind (rrClock c2) = rrClock c3 vc := by
  rewrite [rrClock_bind, rrClock, h vc hv]; rfl

theorem rrClock_empty {vc : VClock α} (hv : vc.isEmpty = false) : rrClock ∅ vc = some vc := by
  simp [rrClock, resetRemove_empty, hv]

theorem rrClock_eq_none_iff {vc : VClock α} (hv : vc.NoZero) (c : VClock α) : rrClock c vc = none ↔ vc.le c := by
  rewrite [rrClock_eq hv, ← ge_iff]; cases c.ge vc <;> simp

theorem rrClock_some {c vc k : VClock α} (h : rrClock c vc = some k) : k = vc.resetRemove c ∧ k.isEmpty = false := by
  unfold rrClock at h
  split at h
  · cases h
  · next h1 => cases h; exact ⟨rfl, Bool.eq_false_iff.mpr h1⟩

theorem rrClock_eq_some_iff {c vc k : VClock α} : rrClock c vc = some k ↔ (vc.resetRemove c = k ∧ k.isEmpty = false) :=
  ⟨fun h => (rrClock_some h).imp_left Eq.symm, by rintro ⟨rfl, hk⟩; simp [rrClock, hk]⟩

theorem rrClock_comm (c1 c2 vc : VClock α) : (rrClock c1 vc).bind (rrClock c2) = (rrClock c2 vc).bind (rrClock c1) := by
  rewrite [rrClock_bind, rrClock_bind, rrClock, resetRemove_comm]; rfl

end VClock

end Crdt
