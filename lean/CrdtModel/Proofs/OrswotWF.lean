import CrdtModel.Proofs.OrswotMerge
/-! `Orswot.StateWF` is preserved by `apply` and `merge` on ARBITRARY well-formed states – not only on derivable ones.
Needed for Orswots nested in a `Map`, which are not derivable in the `orswotSys` sense (key removes reset them).
The entries part is proved next to each loop; here the deferred table is added. -/
namespace Crdt

namespace Orswot
variable {M A : Type} [LinOrd M] [LinOrd A]

/-- well-formed operations: a remove context stores no zero (it is a state clock).  Nothing is asked of an add: a dot
with counter 0 is ignored by `apply` (`clock.get(actor) >= 0`).  This is `LogWF.rm_nz` for one op, without a log: the states
here need not be derivable. -/
def OpWF : OrswotOp M A → Prop
  | .add _ _ => True
  | .rm c _ => c.NoZero

theorem deferredWF_deferInsert {D : FMap (VClock A) (FSet M)} (h : DeferredWF D) {c : VClock A} (hc : c.NoZero)
    (hne : c.isEmpty = false) (ms : FSet M) : DeferredWF (deferInsert D c ms) := by
  intro k hk
  rcases (dKey_deferInsert D c k ms).mp hk with e | h'
  · subst e; exact ⟨hc, hne⟩
  · exact h k h'

theorem deferredWF_mem {D : FMap (VClock A) (FSet M)} (h : DeferredWF D) {p : VClock A × FSet M} (hp : p ∈ D.l) :
    p.1.NoZero ∧ p.1.isEmpty = false :=
  h p.1 (dKey_of_get? (FMap.mem_l_iff.mp hp))

/-- the context is stored only when it is not below the replica clock, and then it is not empty -/
theorem stateWF_applyRm {s : Orswot M A} (wf : StateWF s) (ms : FSet M) {c : VClock A} (hc : c.NoZero) :
    StateWF (applyRm s ms c) := by
  refine ⟨wf.clock_nz, entriesWF_applyRm wf.ewf ms c, ?_⟩
  rewrite [deferred_applyRm]
  by_cases hd : defers c s.clock = true
  · rewrite [if_pos hd]
    exact deferredWF_deferInsert wf.dwf hc (VClock.nonempty_of_not_le ((defers_iff hc wf.clock_nz).mp hd)) ms
  · rewrite [if_neg hd]; exact wf.dwf

theorem stateWF_foldRm (l : List (VClock A × FSet M)) {s : Orswot M A} (wf : StateWF s) (h : ∀ p ∈ l, p.1.NoZero) :
    StateWF (foldRm l s) :=
  List.foldlRecOn l _ wf fun _ wf p hp => stateWF_applyRm wf p.2 (h p hp)

theorem stateWF_rerun {D : FMap (VClock A) (FSet M)} (hD : DeferredWF D) {C : VClock A} (hC : C.NoZero)
    {e : FMap M (VClock A)} (he : EntriesWF e) : StateWF (foldRm D.l ⟨C, e, ∅⟩) :=
  stateWF_foldRm D.l ⟨hC, he, deferredWF_empty⟩ fun _ hp => (deferredWF_mem hD hp).1

theorem stateWF_apply {s : Orswot M A} (wf : StateWF s) {op : OrswotOp M A} (hop : OpWF op) : StateWF (s.apply op) := by
  cases op with
  | add d ms =>
    by_cases gate : s.clock.get d.actor ≥ d.counter
    · rewrite [apply_add_of_seen gate]; exact wf
    · rewrite [apply_add_of_fresh gate]
      have hpos : 0 < d.counter := Nat.zero_lt_of_lt (Nat.lt_of_not_le gate)
      exact stateWF_rerun wf.dwf (VClock.noZero_apply wf.clock_nz d) (OrswotSpec.entriesWF_insertAll hpos ms wf.ewf)
  | rm c ms => exact stateWF_applyRm wf _ hop

theorem stateWF_merge {s o : Orswot M A} (wf : StateWF s) (wo : StateWF o) : StateWF (s.merge o) := by
  rewrite [OrswotSpec.merge_eq]
  have w2 := stateWF_foldRm o.deferred.l (s := { s with entries := OrswotSpec.mergeEntries s o })
    ⟨wf.clock_nz, OrswotSpec.entriesWF_mergeEntries wf.ewf wo.ewf, wf.dwf⟩ (fun _ hp => (deferredWF_mem wo.dwf hp).1)
  exact stateWF_rerun w2.dwf (VClock.noZero_merge w2.clock_nz _) w2.ewf

end Orswot
end Crdt
