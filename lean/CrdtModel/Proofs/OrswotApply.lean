import CrdtModel.Spec.OrswotRep
set_option linter.unusedSectionVars false
/-! The two halves of `rep_apply` for Orswot (put together in Spec/OrswotSys.lean): applying a remove (`rep_apply_rm`: any
context, any time) or an add (`rep_apply_add`) to a state that represents `K` yields the state that represents `op :: K`.
An add ends by re-running the deferred table, as `merge` does: `rep_foldRm` is that step for both. -/
namespace Crdt
namespace OrswotSpec
variable {M A : Type} [LinOrd M] [LinOrd A]
open Orswot

theorem defers_iff_pending {K : List (Op M A)} {clock : VClock A} (hnz : clock.NoZero)
    (hclk : ∀ a, clock.get a = clk K a) {c : VClock A} (hc : c.NoZero) :
    defers c clock = true ↔ pending K c := by
  rewrite [defers_iff hc hnz]
  simp only [pending, VClock.le, Classical.not_forall, Nat.not_le, hclk, gt_iff_lt]

theorem pending_cons_rm (K : List (Op M A)) (c' : VClock A) (ms : List M) (c : VClock A) :
    pending (OrswotOp.rm c' ms :: K) c ↔ pending K c := by
  unfold pending; simp only [clk_cons, addCtr, Nat.zero_max]

theorem rep_apply_rm {K : List (Op M A)} {s : Orswot M A} (h : Rep K s) (c : VClock A) (hc : c.NoZero) (ms : List M) :
    Rep (OrswotOp.rm c ms :: K) (Orswot.apply s (.rm c ms)) := by
  have hdef := defers_iff_pending h.clock_nz h.clock hc
  refine Rep.of_views h.clock_nz ?_ (entriesWF_applyRm h.ewf _ _) ?_ ?_ ?_
  · intro a; simp only [Orswot.apply, clock_applyRm, clk_cons, addCtr, h.clock a, Nat.zero_max]
  · intro m a
    show entryGet (applyRm s (setOfList ms) c).entries m a =
      Ev (max 0 (Mx K m a)) (max (if m ∈ ms then c.get a else 0) (θ K m a))
    rewrite [entryGet_applyRm_Ev, h.entries, E_eq_Ev, Ev_Ev, Nat.zero_max, Nat.max_comm]
    simp only [contains_setOfList]
  · intro c'
    show DKey (applyRm s (setOfList ms) c).deferred c' ↔ _
    rewrite [dKey_applyRm, pending_cons_rm, hdef, h.dKey c']
    simp only [List.mem_cons, OrswotOp.rm.injEq]
    by_cases e : c' = c
    · simp only [e, true_and, and_true, exists_or_eq_left]; exact or_iff_right_of_imp And.right
    · simp only [e, false_and, and_false, false_or, or_false]
  · intro c' m
    show DMem (applyRm s (setOfList ms) c).deferred c' m ↔ _
    rewrite [dMem_applyRm, pending_cons_rm, hdef, h.dMem c' m, contains_setOfList]
    simp only [rmMembers, List.mem_cons, OrswotOp.rm.injEq]
    by_cases e : c' = c
    · simp only [e, true_and, or_and_right, exists_or, exists_eq_left]
      rw [← and_or_left, or_comm]
    · simp only [e, false_and, and_false, false_or, or_false]

/-- the `for member in members` loop of `apply` (src/orswot.rs:73-76), inlined in Model/Orswot.lean -/
def insertAll (dot : Dot A) (ms : List M) (e0 : FMap M (VClock A)) : FMap M (VClock A) :=
  ms.foldl (fun e m => e.insert m (VClock.apply ((e.get? m).getD ∅) dot)) e0

theorem _root_.Crdt.Orswot.apply_add_of_seen {s : Orswot M A} {d : Dot A} (gate : s.clock.get d.actor ≥ d.counter)
    (ms : List M) : Orswot.apply s (.add d ms) = s := if_pos gate

theorem _root_.Crdt.Orswot.apply_add_of_fresh {s : Orswot M A} {d : Dot A} (gate : ¬ s.clock.get d.actor ≥ d.counter)
    (ms : List M) :
    Orswot.apply s (.add d ms) = foldRm s.deferred.l ⟨s.clock.apply d, insertAll d ms s.entries, ∅⟩ := by
  simp only [Orswot.apply, gate, if_false, applyDeferred, foldRm, insertAll]

/-- the add loop on the witnesses, in the shape of `Mx_cons` -/
theorem entryGet_insertAll_max (d : Dot A) (ms : List M) (e0 : FMap M (VClock A)) (m : M) (x : A) :
    entryGet (insertAll d ms e0) m x = max (addCtrOf m x (OrswotOp.add d ms)) (entryGet e0 m x) := by
  induction ms generalizing e0 with
  | nil => simp [insertAll, addCtrOf]
  | cons k t ih =>
    show entryGet (insertAll d t (e0.insert k (VClock.apply ((e0.get? k).getD ∅) d))) m x = _
    rewrite [ih, entryGet_insert]
    by_cases e : m = k
    · subst e
      rewrite [if_pos rfl, get_apply_addCtr _ d t, ← entryGet_eq_getD,
        Nat.max_eq_right (Nat.le_trans (addCtrOf_le_addCtr m x (OrswotOp.add d t)) (Nat.le_max_left _ _))]
      simp only [addCtrOf, addCtr, List.mem_cons, true_or, and_true]
    · rewrite [if_neg e]; simp only [addCtrOf, List.mem_cons, e, false_or]

theorem entriesWF_insertAll {dot : Dot A} (hpos : 0 < dot.counter) (ms : List M) {e0 : FMap M (VClock A)}
    (h : EntriesWF e0) : EntriesWF (insertAll dot ms e0) :=
  List.foldlRecOn ms _ h fun _ h m _ =>
    entriesWF_insert h m (VClock.noZero_apply (noZero_getD h m) dot) (VClock.apply_nonempty _ hpos)

theorem pending_of_cons {K : List (Op M A)} {c : VClock A} (o : Op M A) (h : pending (o :: K) c) : pending K c := by
  obtain ⟨a, ha⟩ := h; rewrite [clk_cons] at ha; exact ⟨a, Nat.lt_of_le_of_lt (Nat.le_max_right _ _) ha⟩

/-- the last step of `apply (.add ..)` and of `merge`: a table `d` of removes is run over a state that has the new clock, the
new witnesses and an empty table.  The result represents `K` if, among the contexts pending at `K`, the table holds exactly
the known removes with the members they name, and if the witnesses are right once the table is subtracted.  What the
table holds for a context that is not pending does not matter: the run drops it. -/
theorem rep_foldRm {K : List (Op M A)} {C : VClock A} {e : FMap M (VClock A)} {d : FMap (VClock A) (FSet M)}
    (hnz : C.NoZero) (hclk : ∀ a, C.get a = clk K a) (ewf : EntriesWF e) (dnz : ∀ c, DKey d c → c.NoZero)
    (hkey : ∀ c, pending K c → (DKey d c ↔ ∃ ms, OrswotOp.rm c ms ∈ K))
    (hmem : ∀ c m, pending K c → (DMem d c m ↔ rmMembers K c m))
    (he : ∀ m a, Ev (entryGet e m a) (dThr d m a) = E K m a) :
    Rep K (foldRm d.l ⟨C, e, ∅⟩) := by
  have hdef : ∀ c, DKey d c → (defers c C = true ↔ pending K c) := fun c hk => defers_iff_pending hnz hclk (dnz c hk)
  refine Rep.of_views (by rewrite [clock_foldRm]; exact hnz) (fun a => by rewrite [clock_foldRm]; exact hclk a)
    (entriesWF_foldRm _ ewf) (fun m a => (entryGet_run d _ m a).trans (he m a)) (fun c => ?_) (fun c m => ?_)
  · rewrite [dKey_run, or_iff_right (dKey_empty c), and_congr_left (hdef c), and_congr_right (hkey c)]
    exact and_comm
  · rw [dMem_run, or_iff_right (dMem_empty c m), and_congr_left fun x => hdef c x.key, and_congr_right (hmem c m)]

/-- the add half of `rep_apply`; `ok` is not used: `Rep (add :: K)` needs the dot to be new to the state (read off its
clock) and, for a duplicate, that `K` is add-closed (`inv`).  The per-actor order on adds is what KEEPS `K` add-closed;
`inv_cons` consumes it. -/
theorem rep_apply_add {U K : List (Op M A)} {s : Orswot M A} (wf : LogWF U) (inv : Inv U K) (h : Rep K s)
    {d : Dot A} {ms : List M} (hu : OrswotOp.add d ms ∈ U) (ok : PredsIn U K d) :
    Rep (OrswotOp.add d ms :: K) (Orswot.apply s (.add d ms)) := by
  by_cases gate : s.clock.get d.actor ≥ d.counter
  · -- duplicate (or a zero dot): the op is skipped, and it adds nothing to the specification
    rewrite [apply_add_of_seen gate]
    by_cases hz : d.counter = 0
    · apply h.transfer
      · intro a; simp only [clk_cons, addCtr, hz, ite_self, Nat.zero_max]
      · intro m a; unfold E; simp only [Mx_cons, θ_cons, addCtrOf, rmCtr, hz, ite_self, Nat.zero_max]
      · intro c ms'; simp only [List.mem_cons, reduceCtorEq, false_or]
    · have hin : OrswotOp.add d ms ∈ K :=
        add_mem_of_le_clk wf inv hu (Nat.pos_of_ne_zero hz) (by rewrite [← h.clock]; exact gate)
      exact rep_congr (fun o => ⟨List.mem_cons_of_mem _, fun x => (List.mem_cons.mp x).elim (· ▸ hin) id⟩) h
  · have hlt : clk K d.actor < d.counter := by rewrite [← h.clock]; exact Nat.lt_of_not_le gate
    rewrite [apply_add_of_fresh gate]
    apply rep_foldRm (VClock.noZero_apply h.clock_nz d)
      (fun a => by rw [get_apply_addCtr s.clock d ms a, clk_cons, h.clock a])
      (entriesWF_insertAll (Nat.zero_lt_of_lt hlt) ms h.ewf) (fun c hk => ((stateWF_of_rep wf inv h).dwf c hk).1)
    · intro c hp
      simp only [h.dKey c, pending_of_cons _ hp, and_true, List.mem_cons, reduceCtorEq, false_or]
    · intro c m hp
      simp only [h.dMem c m, pending_of_cons _ hp, true_and, rmMembers, List.mem_cons, reduceCtorEq, false_or]
    · intro m a
      have hT := h.dThr_le m a
      have hθ := h.θ_le m a (Nat.le_refl _)
      have hx : addCtrOf m a (OrswotOp.add d ms) = 0 ∨ clk K a < addCtrOf m a (OrswotOp.add d ms) := by
        simp only [addCtrOf]; split
        · next hA => rewrite [← hA.1]; exact .inr hlt
        · exact .inl rfl
      -- new dot and old witness apart, `T` the threshold of the parked removes:
      -- `max (Ev new T) (Ev (Ev Mx θ) T) = max (Ev new θ) (Ev Mx θ)`
      rewrite [entryGet_insertAll_max, h.entries, E_eq_Ev, E_eq_Ev, Mx_cons, θ_cons, rmCtr, Nat.zero_max, Ev_max, Ev_max]
      -- the old witness has all known removes subtracted already, the parked ones among them (`hT`); the new dot lies beyond
      -- the clock, so of the known removes only those still parked reach it (`hθ`)
      rw [Ev_Ev, Nat.max_eq_left hT, Ev_eq_of_le hT fun h0 hle => ?_]
      have hgt : clk K a < addCtrOf m a (OrswotOp.add d ms) := hx.resolve_left (Nat.ne_of_gt h0)
      exact (Std.le_max.1 (Nat.le_trans hle hθ)).resolve_left (Nat.not_le.2 hgt)

end OrswotSpec
end Crdt
