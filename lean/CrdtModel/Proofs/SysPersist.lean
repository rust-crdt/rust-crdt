import CrdtModel.Spec.SysPersist
import CrdtModel.Props.SysOrswot
import CrdtModel.Props.SysMap
import CrdtModel.Props.SysList
import CrdtModel.Proofs.Codec
/-! What the availability theorems of `Props/SysPersist.lean` rest on.  Orswot: the causal system `RunC` is a sub-system
of `Run` in which every replica and every saved state is `CaughtUp` (`runC_run_causalInv`) – each op it has learned
satisfies the causal premise `CtxLe` against what it has learned – and such a state has nothing parked
(`runC_deferred_empty`).  Map: the API builds only well-formed ops (`logOpsWF_run`), so the op codec round-trips on the
log.  `Held`, an invariant of every replica and every saved state, is from `Proofs/SysDots.lean` and arrives through
`Props/SysOrswot.lean`. -/
namespace Crdt

namespace Sys
open OrswotSpec
variable {M A : Type} [LinOrd A]

theorem ctxLe_mono {K K' : List (OrswotOp M A)} (le : ∀ a, clk K a ≤ clk K' a) : ∀ {op : OrswotOp M A}, CtxLe K op → CtxLe K' op
  | .add _ _, _ => trivial
  | .rm _ _, h => fun a => Nat.le_trans (h a) (le a)

variable [LinOrd M]

/-- the context of every remove in `K` is dominated by the adds in `K` -/
def CaughtUp (K : List (OrswotOp M A)) : Prop := ∀ op ∈ K, CtxLe K op

theorem caughtUp_cons {K : List (OrswotOp M A)} {op : OrswotOp M A} (h : CaughtUp K) (hop : CtxLe K op) :
    CaughtUp (op :: K) := fun o ho =>
  have le (a : A) : clk K a ≤ clk (op :: K) a := clk_cons op K a ▸ Nat.le_max_right _ _
  have old : CtxLe K o := (List.mem_cons.mp ho).elim (· ▸ hop) (h o)
  ctxLe_mono le old

theorem caughtUp_append {K K' : List (OrswotOp M A)} (h : CaughtUp K) (h' : CaughtUp K') : CaughtUp (K ++ K') := fun o ho =>
  (List.mem_append.mp ho).elim (fun m => ctxLe_mono (fun a => clk_append K K' a ▸ Nat.le_max_left _ _) (h o m))
    fun m => ctxLe_mono (fun a => clk_append K K' a ▸ Nat.le_max_right _ _) (h' o m)

abbrev CausalInv (c : Cfg M A) : Prop := Held (fun _ K => CaughtUp K) c.rep c.know c.snaps

/-- the remove context `contains(m)` hands out at `i` is dominated by what `i` has learned -/
theorem ctxLe_contains {c : Cfg M A} (inv : SysInv c) (i : A) (m : M) (ms : List M) :
    CtxLe (c.know i) (OrswotOp.rm ((c.rep i).contains m).deriveRmCtx.clock ms) := fun a =>
  (inv.rep i).clock a ▸ C07.rm_clock_le_add_clock inv.wf (inv.reach i) m a

/-- … and so is the whole-set context (`read()` / `read_ctx()`): it IS the replica clock -/
theorem ctxLe_clock {c : Cfg M A} (inv : SysInv c) (i : A) (ms : List M) :
    CtxLe (c.know i) (OrswotOp.rm (c.rep i).clock ms) := fun a => Nat.le_of_eq ((inv.rep i).clock a)

theorem stepC_step_causalInv {c c' : Cfg M A} (inv : SysInv c) (h : CausalInv c) (st : StepC c c') : Step c c' ∧ CausalInv c' := by
  have gen {i : A} {op : OrswotOp M A} (hop : CtxLe (c.know i) op) : CausalInv (c.gen i op) :=
    h.upd (caughtUp_cons (h.reach i) hop)
  have mrg {i : A} {s : Orswot M A} {K : List (OrswotOp M A)} (hK : CaughtUp K) : CausalInv (c.mergeIn i s K) :=
    h.upd (caughtUp_append (h.reach i) hK)
  cases st with
  | add i m => exact ⟨.add c i m, gen trivial⟩
  | addCtx i m => exact ⟨.addCtx c i m, gen trivial⟩
  | addContains i m m' => exact ⟨.addContains c i m m', gen trivial⟩
  | addAll i ms => exact ⟨.addAll c i ms, gen trivial⟩
  | rm i m => exact ⟨.rm c i m, gen (ctxLe_contains inv i m [m])⟩
  | rmRead i m => exact ⟨.rmRead c i m, gen (ctxLe_clock inv i [m])⟩
  | rmAll i ms => exact ⟨.rmAll c i ms, gen (ctxLe_clock inv i ms)⟩
  | rmAllCtx i ms => exact ⟨.rmAllCtx c i ms, gen (ctxLe_clock inv i ms)⟩
  | rmStale i m p hp hle => exact ⟨.rmStale c i m p hp, gen hle⟩
  -- a delivery changes `rep` and `know` as generating the op does
  | deliver i op hu ok hle => exact ⟨.deliver c i op hu ok, gen hle⟩
  | merge i j => exact ⟨.merge c i j, mrg (h.reach j)⟩
  | snapshot i => exact ⟨.snapshot c i, h.snapshot i⟩
  | mergeSnap i n p hp => exact ⟨.mergeSnap c i n p hp, mrg (h.snaps p (List.mem_of_getElem? hp))⟩

theorem runC_run_causalInv {c : Cfg M A} (r : RunC c) : Run c ∧ CausalInv c := by
  induction r with
  | init => exact ⟨.init, .init fun _ h => absurd h List.not_mem_nil⟩
  | step _ st ih => exact (stepC_step_causalInv (sysInv_run ih.1) ih.2 st).imp (.step ih.1) id

/-- **in the causal system no replica and no saved state ever holds a pending remove** -/
theorem runC_deferred_empty {c : Cfg M A} (r : RunC c) {s : Orswot M A} {K : List (OrswotOp M A)} (v : c.View s K) :
    s.deferred = ∅ :=
  -- `CtxLe K (.rm cl ms)` unfolds to `∀ a, cl.get a ≤ clk K a`, that is `¬ pending K cl`: caught-up knowledge is what
  -- `run_no_pending_residue` asks for
  run_no_pending_residue (runC_run_causalInv r).1 v fun cl ms h => v.of_held (runC_run_causalInv r).2 (.rm cl ms) h

end Sys

namespace SysPersist

namespace OrswotP
open Crdt.Sys
variable {M A : Type} [LinOrd M] [LinOrd A]

theorem setRep_self (c : Cfg M A) (i : A) : setRep c i (c.rep i) = c := by
  rw [setRep, upd_self]

/-- a backup through the codec is a backup -/
theorem addSnap_self (c : Cfg M A) (i : A) : addSnap c (c.rep i) (c.know i) = c.snapshot i := rfl

end OrswotP

namespace MapP
open Crdt.SysMap
variable {K V VOp A : Type} [LinOrd K] [LinOrd A] {ops : ValOps V VOp A} {Allowed : (V → AddCtx A → VOp) → Prop}
  {Q : VOp → Prop}

theorem setRep_self (c : Cfg K V VOp A) (i : A) : setRep c i (c.rep i) = c := by
  rw [setRep, Sys.upd_self]

theorem addSnap_self (c : Cfg K V VOp A) (i : A) : addSnap c (c.rep i) (c.know i) = c.snapshot i := rfl

theorem wf_rm (k : K) (ctx : RmCtx A) : MapOp.WF Q (CMap.rm k ctx : MapOp K VOp A) :=
  List.pairwise_singleton (· < ·) k

theorem logOpsWF_run (hQ : ∀ f, Allowed f → ∀ v ctx, Q (f v ctx)) {c : Cfg K V VOp A} (r : Run ops Allowed c) :
    ∀ op ∈ c.log, MapOp.WF Q op :=
  run_log_forall (fun _ _ _ f hf => hQ f hf _ _) wf_rm r

end MapP

namespace ListP
open Crdt.SysList
variable {τ A : Type} [LinOrd A]

theorem setRep_self (c : Cfg τ A) (i : A) : setRep c i (c.rep i) = c := by
  rw [setRep, Sys.upd_self]

end ListP

end SysPersist
end Crdt
