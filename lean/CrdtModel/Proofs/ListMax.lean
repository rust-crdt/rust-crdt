/-! `listMax f K`: the largest `f`-value over a finite list (0 for the empty list) – the basic
aggregate of the specifications ("largest counter learned from actor a", "largest remove context"). -/
namespace Crdt

def listMax {ω : Type} (f : ω → Nat) : List ω → Nat
  | [] => 0
  | x :: xs => max (f x) (listMax f xs)

@[simp] theorem listMax_nil {ω : Type} (f : ω → Nat) : listMax f [] = 0 := rfl

section
variable {ω : Type}

@[simp] theorem listMax_cons (f : ω → Nat) (x : ω) (xs : List ω) :
    listMax f (x :: xs) = max (f x) (listMax f xs) := rfl

theorem listMax_le_iff (f : ω → Nat) (K : List ω) (n : Nat) : listMax f K ≤ n ↔ ∀ x ∈ K, f x ≤ n := by
  induction K with
  | nil => simp
  | cons y ys ih => rw [listMax_cons, Nat.max_le, ih, List.forall_mem_cons]

theorem le_listMax (f : ω → Nat) {K : List ω} {x : ω} (h : x ∈ K) : f x ≤ listMax f K :=
  (listMax_le_iff f K _).mp (Nat.le_refl _) x h

theorem lt_listMax_iff (f : ω → Nat) (K : List ω) (n : Nat) : n < listMax f K ↔ ∃ x ∈ K, n < f x := by
  rewrite [← Nat.not_le, listMax_le_iff]
  simp only [Classical.not_forall, Nat.not_le, exists_prop]

theorem listMax_attained (f : ω → Nat) (K : List ω) (h : 0 < listMax f K) :
    ∃ x ∈ K, f x = listMax f K := by
  -- some value exceeds `listMax f K - 1`, and none exceeds `listMax f K`
  obtain ⟨x, hx, lt⟩ := (lt_listMax_iff f K (listMax f K - 1)).mp (Nat.sub_one_lt (Nat.ne_of_gt h))
  exact ⟨x, hx, Nat.le_antisymm (le_listMax f hx) (Nat.le_of_pred_lt lt)⟩

theorem listMax_le_listMax {f g : ω → Nat} (K : List ω) (h : ∀ x, f x ≤ g x) : listMax f K ≤ listMax g K :=
  (listMax_le_iff f K _).mpr fun x hx => Nat.le_trans (h x) (le_listMax g hx)

theorem listMax_append (f : ω → Nat) (K K' : List ω) :
    listMax f (K ++ K') = max (listMax f K) (listMax f K') := by
  induction K with
  | nil => exact (Nat.zero_max _).symm
  | cons y ys ih => rw [List.cons_append, listMax_cons, listMax_cons, ih, Nat.max_assoc]

theorem listMax_mono (f : ω → Nat) {K K' : List ω} (h : ∀ x, x ∈ K → x ∈ K') :
    listMax f K ≤ listMax f K' :=
  (listMax_le_iff f K _).mpr fun x hx => le_listMax f (h x hx)

theorem listMax_congr (f : ω → Nat) {K K' : List ω} (h : ∀ x, x ∈ K ↔ x ∈ K') :
    listMax f K = listMax f K' :=
  Nat.le_antisymm (listMax_mono f (fun x => (h x).mp)) (listMax_mono f (fun x => (h x).mpr))

theorem listMax_map {ω ω' : Type} (f : ω' → Nat) (g : ω → ω') (L : List ω) :
    listMax f (L.map g) = listMax (fun x => f (g x)) L := by
  induction L with
  | nil => rfl
  | cons x xs ih => simp only [List.map_cons, listMax, ih]

theorem listMax_lt_iff (f : ω → Nat) (K : List ω) {n : Nat} (hn : 0 < n) :
    listMax f K < n ↔ ∀ x ∈ K, f x < n := by
  cases n with
  | zero => exact absurd hn (Nat.lt_irrefl 0)
  | succ n => simp only [Nat.lt_succ_iff]; exact listMax_le_iff f K n

end

theorem listMax_congr_fun {ω : Type} {f g : ω → Nat} (K : List ω) (h : ∀ x ∈ K, f x = g x) :
    listMax f K = listMax g K := by
  induction K with
  | nil => rfl
  | cons y ys ih =>
    simp only [listMax]
    rw [h y (by simp), ih (fun x hx => h x (List.mem_cons_of_mem _ hx))]

theorem listMax_eq_zero {ω : Type} (f : ω → Nat) (K : List ω) : listMax f K = 0 ↔ ∀ x ∈ K, f x = 0 := by
  simp only [← Nat.le_zero, listMax_le_iff]

end Crdt
