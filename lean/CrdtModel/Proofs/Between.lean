import CrdtModel.Proofs.Identifier
import CrdtModel.Proofs.SeqInsert
/-! `between` of the two neighbours of position `i` of a strictly sorted list of identifiers: the facts behind "insert at
index `i`" for `List` (`insert_index`) and `GList` (`insert`, `insert_after`, `insert_before`), in the shape of the
hypotheses of `AL.insert_at` (`prevAt`: `Proofs/SeqInsert.lean`). -/
namespace Crdt
open LinOrd
namespace Identifier
variable {τ : Type} [LinOrd τ]

/-- When `i` is the end, the last identifier must not be the empty one: that is the greatest element and nothing fits above
it. -/
theorem between_at {ks : List (Identifier τ)} (hs : ks.Pairwise (· < ·)) (i : Nat)
    (hne : ks[i]? = none → ∀ p, prevAt ks i = some p → p.path ≠ []) (m : τ) :
    (∀ p, prevAt ks i = some p → p < between (prevAt ks i) ks[i]? m) ∧
    (∀ p, ks[i]? = some p → between (prevAt ks i) ks[i]? m < p) := by
  refine ⟨fun p hp => ?_, fun q hq => ?_⟩
  · rewrite [hp]
    cases hq : ks[i]? with
    | none => exact between_after (hne hq p hp) m
    | some q => exact (between_strict (SortedKeys.prevAt_lt hs hp hq) m).1
  · rewrite [hq]
    cases hp : prevAt ks i with
    | none => exact between_before q m
    | some p => exact (between_strict (SortedKeys.prevAt_lt hs hp hq) m).2

theorem value_between_at {ks : List (Identifier τ)} (hs : ks.Pairwise (· < ·)) (i : Nat) (m : τ) :
    (between (prevAt ks i) ks[i]? m).value = some m :=
  between_value _ _ m fun a e => lt_irrefl a (SortedKeys.prevAt_lt hs e.1 e.2)

end Identifier
end Crdt
