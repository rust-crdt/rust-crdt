import CrdtModel.Spec.OrswotExec
import CrdtModel.Spec.OrswotRep
set_option linter.unusedSectionVars false
/-! Soundness of the executable Orswot specification (`OrswotSpec.specState`): it satisfies `Rep K`, hence – `Rep` being
functional – every state that represents `K` equals it. -/
namespace Crdt

namespace OrswotSpec
variable {M A : Type} [LinOrd M] [LinOrd A]
open Orswot

theorem actor_of_clk {K : List (Op M A)} {a : A} (h : clk K a ≠ 0) : a ∈ specActors K := by
  obtain ⟨d, ms, hin, rfl, _⟩ := clk_attained (Nat.pos_of_ne_zero h)
  exact List.mem_flatMap.mpr ⟨_, hin, List.mem_singleton_self _⟩

theorem member_of_E {K : List (Op M A)} {m : M} {a : A} (h : E K m a ≠ 0) : m ∈ specMembers K := by
  obtain ⟨d, ms, hin, _, hm, _⟩ := E_attained h
  exact List.mem_flatMap.mpr ⟨_, hin, hm⟩

theorem get_specEntryClock (K : List (Op M A)) (m : M) (a : A) : (specEntryClock K m).get a = E K m a :=
  VClockSpec.get_ofFun _ _ a fun h =>
    actor_of_clk (Nat.ne_of_gt (Nat.lt_of_lt_of_le (Nat.pos_of_ne_zero h) (E_le_clk K m a)))

theorem get?_specEntries (K : List (Op M A)) (m : M) :
    (specEntries K).get? m =
      if m ∈ specMembers K ∧ ¬ (specEntryClock K m).isEmpty = true then some (specEntryClock K m) else none :=
  FMap.get?_foldl_insert_unless _ _ _ ∅ m

theorem pendingB_iff {K : List (Op M A)} {c : VClock A} {ms : List M} (hin : OrswotOp.rm c ms ∈ K) :
    pendingB K c = true ↔ pending K c := by
  simp only [pendingB, List.any_eq_true, decide_eq_true_eq, pending]
  constructor
  · rintro ⟨a, _, h⟩; exact ⟨a, h⟩
  · rintro ⟨a, h⟩
    refine ⟨a, ?_, h⟩
    have hpos : c.get a ≠ 0 := Nat.ne_of_gt (Nat.zero_lt_of_lt h)
    simp only [specActors, List.mem_flatMap]
    refine ⟨_, hin, ?_⟩
    simp only [opActors, List.mem_map]
    exact ⟨(a, c.get a), FMap.mem_l_iff.mpr (VClock.get?_of_get_ne_zero hpos), rfl⟩

theorem mem_rmClocks {K : List (Op M A)} {c : VClock A} : c ∈ K.filterMap rmClockOf ↔ ∃ ms, OrswotOp.rm c ms ∈ K := by
  simp only [List.mem_filterMap]
  constructor
  · rintro ⟨op, hin, e⟩
    cases op with
    | add d ms => simp [rmClockOf] at e
    | rm c' ms => simp only [rmClockOf, Option.some.injEq] at e; subst e; exact ⟨ms, hin⟩
  · rintro ⟨ms, hin⟩; exact ⟨_, hin, rfl⟩

theorem mem_rmMembers {K : List (Op M A)} {c : VClock A} {m : M} :
    m ∈ K.flatMap (rmMembersOf c) ↔ rmMembers K c m := by
  simp only [List.mem_flatMap, rmMembers]
  constructor
  · rintro ⟨op, hin, hm⟩
    cases op with
    | add d ms => simp [rmMembersOf] at hm
    | rm c' ms =>
      simp only [rmMembersOf] at hm
      split at hm
      · next e => subst e; exact ⟨ms, hin, hm⟩
      · simp at hm
  · rintro ⟨ms, hin, hm⟩
    exact ⟨_, hin, by simp [rmMembersOf, hm]⟩

theorem get?_specDeferred (K : List (Op M A)) (c : VClock A) (S : FSet M) :
    (specDeferred K).get? c = some S ↔
      (((∃ ms, OrswotOp.rm c ms ∈ K) ∧ pending K c) ∧ S = setOfList (K.flatMap (rmMembersOf c))) := by
  -- `specDeferred` inserts IF pending; `get?_foldl_insert_unless` is about a loop that inserts UNLESS a test holds
  have : specDeferred K = (K.filterMap rmClockOf).foldl (fun d c =>
      if ¬ pendingB K c = true then d else d.insert c (setOfList (K.flatMap (rmMembersOf c)))) ∅ := by
    simp only [specDeferred, ite_not]
  rewrite [this, FMap.get?_foldl_insert_unless]
  constructor
  · intro h
    split at h
    · next hc =>
      obtain ⟨ms, hin⟩ := mem_rmClocks.mp hc.1
      exact ⟨⟨⟨ms, hin⟩, (pendingB_iff hin).mp (Decidable.not_not.mp hc.2)⟩, (Option.some.inj h).symm⟩
    · cases h
  · rintro ⟨⟨⟨ms, hin⟩, hp⟩, rfl⟩
    exact if_pos ⟨mem_rmClocks.mpr ⟨ms, hin⟩, not_not_intro ((pendingB_iff hin).mpr hp)⟩

/-- **the executable specification satisfies the representation relation** -/
theorem rep_specState (K : List (Op M A)) : Rep K (specState K) := by
  refine ⟨VClockSpec.noZero_ofFun _ _, fun a => VClockSpec.get_ofFun _ _ a (fun h => actor_of_clk h), ?_, ?_, ?_, ?_⟩
  · intro m mc hg
    simp only [specState, get?_specEntries] at hg
    split at hg
    · next h => cases hg; exact ⟨VClockSpec.noZero_ofFun _ _, Bool.eq_false_iff.mpr h.2⟩
    · cases hg
  · intro m a
    show entryGet (specEntries K) m a = _
    by_cases h : m ∈ specMembers K ∧ ¬ (specEntryClock K m).isEmpty = true
    · rw [entryGet_of_some ((get?_specEntries K m).trans (if_pos h)), get_specEntryClock]
    · rewrite [entryGet_of_none ((get?_specEntries K m).trans (if_neg h))]
      -- a positive witness makes the member known and its clock non-empty
      by_cases hz : E K m a = 0
      · exact hz.symm
      · exact absurd ⟨member_of_E hz, fun hemp => hz (by rw [← get_specEntryClock, VClock.get_of_isEmpty hemp])⟩ h
  · intro c
    show ((specDeferred K).get? c).isSome = true ↔ _
    simp only [Option.isSome_iff_exists, get?_specDeferred, exists_and_left, exists_eq, and_true]
  · intro c S hS m
    obtain ⟨_, rfl⟩ := (get?_specDeferred K c S).mp hS
    rw [contains_setOfList, mem_rmMembers]

/-- every state that represents `K` IS the executable specification -/
theorem eq_specState {K : List (Op M A)} {s : Orswot M A} (h : Rep K s) : s = specState K :=
  rep_functional h (rep_specState K)

end OrswotSpec
end Crdt
