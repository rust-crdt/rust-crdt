import CrdtModel.Spec.SysOrswot
import CrdtModel.Props.C07
import CrdtModel.Proofs.SysDots
set_option linter.unusedSectionVars false
/-! The system invariant `SysInv`: every configuration the system of Spec/SysOrswot.lean can reach has a well-formed log,
and its replica states and saved states are `Reach`-derivable over that log (`sysInv_run`).  Generation extends the log, so
`Reach` has to be monotone under a FRESH extension of the op universe (`reach_mono_cons`).  The lemmas on the newest
counter and the delivery discipline are stated for ANY log and knowledge: the Map system uses them at key level. -/
namespace Crdt.Sys
open RepSys OrswotSpec
variable {M A : Type} [LinOrd M] [LinOrd A]

section
variable {op o : OrswotOp M A} {U K : List (OrswotOp M A)}

theorem mem_addDot {d : Dot A} : (∃ o ∈ U, addDot o = some d) ↔ ∃ ms, OrswotOp.add d ms ∈ U := by
  constructor
  · rintro ⟨o, ho, hd⟩
    cases o with
    | rm cl ms => cases hd
    | add d' ms => cases hd; exact ⟨ms, ho⟩
  · rintro ⟨ms, h⟩; exact ⟨_, h, rfl⟩

theorem ok_mono_cons (fr : Fresh addDot U op) (hu : o ∈ U) (ok : OrswotSpec.Ok U K o) : OrswotSpec.Ok (op :: U) K o := by
  cases o with
  | rm c ms => trivial
  | add d ms =>
    intro d' ms' hin ha hlt
    rcases List.mem_cons.mp hin with e | e
    · -- the new op itself: it would have to be older than `d`, but it is newer than every op of its actor in `U`
      subst e
      exact absurd hlt (Nat.lt_asymm (fr d' rfl _ hu d rfl ha.symm))
    · exact ok d' ms' e ha hlt

/-- A new add of an actor is one more predecessor that `PredsIn` may ask for at a later add of that actor; being newer
than every add of the actor in `U`, it is asked for at none of them (`ok_mono_cons`). -/
theorem reach_mono_cons {s : Orswot M A} (fr : Fresh addDot U op) (h : orswotSys.Reach U s K) : orswotSys.Reach (op :: U) s K := by
  induction h with
  | init => exact Reach.init
  | apply _ hu ok ih => exact Reach.apply ih (List.mem_cons_of_mem _ hu) (ok_mono_cons fr hu ok)
  | merge _ _ ih1 ih2 => exact Reach.merge ih1 ih2

theorem isTop_clk (U : List (OrswotOp M A)) (i : A) : IsTop addDot U i (clk U i) := by
  refine ⟨fun o ho d hd ha => ?_, fun h => ?_⟩
  · cases o with
    | rm cl ms => cases hd
    | add d' ms => cases hd; subst ha; exact le_clk ho
  · obtain ⟨d, ms, hin, ha, hc⟩ := clk_attained h
    exact ⟨_, hin, by rewrite [← hc, ← ha]; rfl⟩

theorem ok_cons_of_own {i : A} {N : Nat} (own : ∀ d ms, OrswotOp.add d ms ∈ U → d.actor = i → OrswotOp.add d ms ∈ K)
    (hop : ∀ d, addDot op = some d → d = ⟨i, N + 1⟩) : OrswotSpec.Ok (op :: U) K op := by
  cases op with
  | rm cl ms => trivial
  | add d ms =>
    intro d' ms' hin ha hlt
    rcases List.mem_cons.mp hin with e | e
    · cases e; exact absurd hlt (Nat.lt_irrefl _)
    · exact own d' ms' e (by rw [ha, hop d rfl])

end

section
variable {c : Cfg M A} {s : Orswot M A} {K : List (OrswotOp M A)}

theorem Cfg.View.of_held {P : Orswot M A → List (OrswotOp M A) → Prop} (v : c.View s K)
    (h : Held P c.rep c.know c.snaps) : P s K := by
  cases v with
  | rep i => exact h.reach i
  | snap hp => exact h.snaps _ hp

/-- the system invariant, in four parts (same letters: Props/SysOrswot.lean): (a) the log is
well-formed; (b) every replica state and every saved state is derivable over the log with its knowledge; (c) an actor's
replica knows all of that actor's adds; (d) add counters are positive and, per actor, contiguous.  (b) is the parent -/
structure SysInv (c : Cfg M A) : Prop extends Held (orswotSys.Reach c.log) c.rep c.know c.snaps where
  /-- (a) remove contexts store no zero (with `dots.uniq`: the log is well-formed) -/
  nz : ∀ cl ms, OrswotOp.rm cl ms ∈ c.log → cl.NoZero
  /-- (c), (d), and a dot names one add -/
  dots : Dots addDot c.log c.know

theorem sysInv_init : SysInv (Cfg.init : Cfg M A) := ⟨.init Reach.init, fun _ _ h => (by cases h), Dots.nil⟩

namespace SysInv

theorem wf (inv : SysInv c) : LogWF c.log :=
  ⟨fun d ms ms' h h' => by cases inv.dots.uniq _ h _ h' d rfl rfl; rfl, inv.nz⟩

theorem view (inv : SysInv c) (v : c.View s K) : orswotSys.Reach c.log s K :=
  v.of_held inv.toHeld

theorem rep (inv : SysInv c) (i : A) : OrswotSpec.Rep (c.know i) (c.rep i) := C04.rep inv.wf (inv.reach i)

theorem own (inv : SysInv c) (i : A) (d : Dot A) (ms : List M) (h : OrswotOp.add d ms ∈ c.log) (ha : d.actor = i) :
    OrswotOp.add d ms ∈ c.know i := ha ▸ inv.dots.own _ h d rfl

/-- the newest counter `i` has used is the one its own replica knows: this is where "each actor confined to one replica"
(`Dots.own`) is used -/
theorem top (inv : SysInv c) (i : A) : IsTop addDot c.log i (clk (c.know i) i) :=
  inv.dots.isTop (reach_sub (inv.reach i)) (isTop_clk _ i)

theorem clk_know_eq_log (inv : SysInv c) (i : A) : clk (c.know i) i = clk c.log i := (inv.top i).unique (isTop_clk _ i)

theorem derived_dot (inv : SysInv c) (i : A) : ((c.rep i).read.deriveAddCtx i).dot = ⟨i, clk (c.know i) i + 1⟩ :=
  (C07.derived_dot_fresh inv.wf (inv.reach i) i (inv.own i)).1

end SysInv

/-- what the API guarantees about an op generated by `i`, whose replica knows `K` -/
def GenOk (K : List (OrswotOp M A)) (i : A) : OrswotOp M A → Prop
  | .add d _ => d = ⟨i, clk K i + 1⟩
  | .rm cl _ => cl.NoZero

theorem genOk_dot {i : A} {op : OrswotOp M A} (g : GenOk K i op) : ∀ d, addDot op = some d → d = ⟨i, clk K i + 1⟩ := by
  cases op with
  | rm cl ms => intro d hd; cases hd
  | add d' ms => intro d hd; cases hd; exact g

theorem sysInv_gen (inv : SysInv c) {i : A} {op : OrswotOp M A} (g : GenOk (c.know i) i op) : SysInv (c.gen i op) := by
  have old := inv.toHeld.mono fun _ _ => reach_mono_cons ((inv.top i).fresh (genOk_dot g))
  -- the generated op may be applied at its origin: all earlier adds of `i` are known there
  have ok := ok_cons_of_own (inv.own i) (genOk_dot g)
  refine ⟨old.upd (Reach.apply (R := orswotSys) (old.reach i) List.mem_cons_self ok), fun cl ms h => ?_,
    inv.dots.cons (inv.top i) (genOk_dot g)⟩
  rcases List.mem_cons.mp h with e | e
  · subst e; exact g
  · exact inv.nz cl ms e

theorem genOk_add (inv : SysInv c) (i : A) (ms : List M) :
    GenOk (c.know i) i (OrswotOp.add ((c.rep i).read.deriveAddCtx i).dot ms) := inv.derived_dot i

/-- entry clocks (the `contains` remove context) store no zero; for an absent member the context is empty -/
theorem contains_nz (inv : SysInv c) (v : c.View s K) (m : M) :
    (s.contains m).deriveRmCtx.clock.NoZero :=
  Orswot.noZero_getD (C04.rep inv.wf (inv.view v)).ewf m

theorem sysInv_deliver (inv : SysInv c) (i : A) {op : OrswotOp M A} (hu : op ∈ c.log)
    (ok : OrswotSpec.Ok c.log (c.know i) op) : SysInv (c.deliver i op) :=
  ⟨inv.toHeld.upd (Reach.apply (R := orswotSys) (inv.reach i) hu ok), inv.nz, inv.dots.upd fun _ h => List.mem_cons_of_mem _ h⟩

theorem sysInv_mergeIn (inv : SysInv c) (i : A) (h : orswotSys.Reach c.log s K) :
    SysInv (c.mergeIn i s K) :=
  ⟨inv.toHeld.upd (Reach.merge (R := orswotSys) (inv.reach i) h), inv.nz, inv.dots.upd fun _ h => List.mem_append_left _ h⟩

theorem sysInv_snapshot (inv : SysInv c) (i : A) : SysInv (c.snapshot i) :=
  ⟨inv.toHeld.snapshot i, inv.nz, inv.dots⟩

/-- a step preserves the invariant, and what was derivable stays derivable: the log only grows by fresh ops -/
theorem sysInv_step {c' : Cfg M A} (inv : SysInv c) (st : Step c c') :
    SysInv c' ∧ ∀ {s K}, orswotSys.Reach c.log s K → orswotSys.Reach c'.log s K := by
  have gen (i : A) {op : OrswotOp M A} (g : GenOk (c.know i) i op) :
      SysInv (c.gen i op) ∧ ∀ {s K}, orswotSys.Reach c.log s K → orswotSys.Reach (op :: c.log) s K :=
    ⟨sysInv_gen inv g, reach_mono_cons ((inv.top i).fresh (genOk_dot g))⟩
  cases st with
  -- `read`, `read_ctx` and `contains` hand out the same add context (the replica clock): the first three ops are
  -- definitionally the same
  | add i m => exact gen i (genOk_add inv i [m])
  | addCtx i m => exact gen i (genOk_add inv i [m])
  | addContains i m m' => exact gen i (genOk_add inv i [m])
  | addAll i ms => exact gen i (genOk_add inv i ms)
  | rm i m => exact gen i (contains_nz inv (.rep i) m)
  | rmRead i m => exact gen i (inv.rep i).clock_nz
  | rmAll i ms => exact gen i (inv.rep i).clock_nz
  | rmAllCtx i ms => exact gen i (inv.rep i).clock_nz
  | rmStale i m p hp => exact gen i (contains_nz inv (.snap hp) m)
  | deliver i op hu ok => exact ⟨sysInv_deliver inv i hu ok, id⟩
  | merge i j => exact ⟨sysInv_mergeIn inv i (inv.reach j), id⟩
  | snapshot i => exact ⟨sysInv_snapshot inv i, id⟩
  | mergeSnap i n p hp => exact ⟨sysInv_mergeIn inv i (inv.snaps p (List.mem_of_getElem? hp)), id⟩

end

theorem sysInv_steps {c c' : Cfg M A} (inv : SysInv c) (st : Steps c c') :
    SysInv c' ∧ ∀ {s K}, orswotSys.Reach c.log s K → orswotSys.Reach c'.log s K := by
  induction st with
  | refl => exact ⟨inv, id⟩
  | step _ s ih => exact ⟨(sysInv_step ih.1 s).1, fun h => (sysInv_step ih.1 s).2 (ih.2 h)⟩

theorem sysInv_run {c : Cfg M A} (r : Run c) : SysInv c := by
  induction r with
  | init => exact sysInv_init
  | step _ st ih => exact (sysInv_step ih st).1

end Crdt.Sys
