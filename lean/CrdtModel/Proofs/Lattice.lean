import CrdtModel.Spec.Lattice
/-! `GCounter.read` as a sum over the stored entries, for C11 and for `reset_remove` (Proofs/ResetRemove.lean).
`AL.sumVals l` is `(l.map (·.2)).sum` (`sumVals_eq`) written as a recursion, for the induction of `sumVals_insert`. -/
namespace Crdt
open LinOrd

namespace AL
variable {κ : Type} [LinOrd κ]

def sumVals : List (κ × Nat) → Nat
  | [] => 0
  | (_, v) :: t => v + sumVals t

theorem sumVals_insert (l : List (κ × Nat)) (hs : Sorted l) (k : κ) (v : Nat) :
    sumVals (insert k v l) + (get? l k).getD 0 = sumVals l + v := by
  fun_induction insert k v l with
  | case1 => exact Nat.add_comm ..
  | case2 k' v' t lt =>
    rewrite [get?, if_neg (ne_of_lt lt), get?_eq_none_of_lb (fun _ => List.rel_of_pairwise_cons hs) (Or.inr lt)]
    exact Nat.add_comm v _
  | case3 v' t =>
    rewrite [get?, if_pos rfl]
    show v + sumVals t + v' = v' + sumVals t + v
    rw [Nat.add_right_comm, Nat.add_comm v, Nat.add_right_comm]
  | case4 k' v' t _ ne ih =>
    rewrite [get?, if_neg ne]
    show v' + sumVals (insert k v t) + _ = v' + sumVals t + v
    rw [Nat.add_assoc, ih hs.of_cons, Nat.add_assoc]

omit [LinOrd κ] in
theorem sumVals_eq (l : List (κ × Nat)) : sumVals l = (l.map (·.2)).sum := by
  induction l with
  | nil => rfl
  | cons hd t ih => rewrite [List.map_cons, List.sum_cons, ← ih]; rfl

end AL

theorem VClock.sumVals_dots {α : Type} [LinOrd α] (c : VClock α) :
    AL.sumVals c.dots.l = ((c.dots.l.map (·.1)).map c.get).sum := by
  rewrite [AL.sumVals_eq, List.map_map]
  exact congrArg List.sum (List.map_congr_left fun _ hp => (VClock.get_of_mem hp).symm)

namespace GCounter
variable {α : Type} [LinOrd α]

theorem read_eq (s : GCounter α) : s.read = AL.sumVals s.inner.dots.l := by
  rewrite [AL.sumVals_eq, read, VClock.iter, List.map_map]; rfl

theorem read_apply_new (s : GCounter α) (d : Dot α) (h : s.inner.get d.actor < d.counter) :
    (s.apply d).read = s.read + (d.counter - s.inner.get d.actor) := by
  rewrite [read_eq, read_eq, apply, VClock.apply, if_pos h]
  have : AL.sumVals (s.inner.dots.insert d.actor d.counter).l + s.inner.get d.actor = _ :=
    AL.sumVals_insert s.inner.dots.l s.inner.dots.sorted d.actor d.counter
  exact (Nat.eq_sub_of_add_eq this).trans (Nat.add_sub_assoc (Nat.le_of_lt h) _)

end GCounter
end Crdt
