import CrdtModel.Model.Codec
import Std.Data.String.ToNat
/-! The laws of the serde model of Model/Codec.lean (`RoundTrip`, `Total`, `Fails`, `OnlyKeyError`) and the lemmas from
which `Props/C19.lean` and `Props/SysPersist.lean` get them type by type.  Nothing is assumed: the leaf facts (decimal map
keys – `Std.Data.String.ToNat` is imported for them –, base-2^32 digits of `BigInt`, `Rat` from numerator/denominator, a
sorted list collected into `FMap.ofList` / `FSet.ofElems`) are proved here.  A `do` block of an encoder is walked with one
step lemma per `>>=`; `Total` of `list` / `pair` / `fmapObj` is the negative of its `Fails`, `Total` of a struct one
`Except.bind_isOk` per field; the round trips of structs and enum variants all come from one lemma over the list of named
fields (`Fields`).

A per-type lemma (`x_roundTrip : (xCodec ..).RoundTrip`, `x_total`, `x_fails`, `x_onlyKeyError`) is here when another codec
is built from `xCodec`, and so are `orswot_fails` and `cmap_fails` (of `mapCodec`: `Codec.map_*` is the combinator,
`serde(transparent)`); otherwise the theorem of `Props/C19.lean` carries the proof. -/
namespace Crdt

section
variable {ε α β : Type} {x : Except ε α} {f : α → Except ε β}

theorem Except.bind_eq_ok {b : β} : (x >>= f) = .ok b ↔ ∃ a, x = .ok a ∧ f a = .ok b := by
  cases x <;> simp [bind, Except.bind]

theorem Except.bind_isOk (hx : ∃ a, x = .ok a) (hf : ∀ a, ∃ b, f a = .ok b) : ∃ b, (x >>= f) = .ok b := by
  obtain ⟨a, rfl⟩ := hx; exact hf a

theorem Except.fails_bind {ε α β : Type} {x : Except ε α} {f : α → Except ε β} {P : Prop}
    (hf : ∀ a, (∃ e, f a = .error e) ↔ P) : (∃ e, (x >>= f) = .error e) ↔ (∃ e, x = .error e) ∨ P := by
  cases x with
  | error e0 => exact iff_of_true ⟨e0, rfl⟩ (.inl ⟨e0, rfl⟩)
  | ok a => exact (hf a).trans (or_iff_right (by rintro ⟨_, ⟨⟩⟩)).symm

theorem Except.fails_pure {ε α : Type} {a : α} : (∃ e : ε, (pure a : Except ε α) = .error e) ↔ False :=
  iff_false_intro (by rintro ⟨_, ⟨⟩⟩)

theorem Except.fails_bind_pure {g : α → β} : (∃ e, (x >>= fun a => pure (g a)) = .error e) ↔ ∃ e, x = .error e :=
  (fails_bind fun _ => fails_pure).trans (or_iff_left not_false)

theorem Except.onlyError_bind {K : ε} (hx : ∀ e, x = .error e → e = K) (hf : ∀ a e, f a = .error e → e = K) :
    ∀ e, (x >>= f) = .error e → e = K := by
  cases x with
  | error _ => intro _ h; cases h; exact hx _ rfl
  | ok a => exact hf a

theorem Except.onlyError_pure {a : α} {K : ε} : ∀ e, (pure a : Except ε α) = .error e → e = K :=
  fun _ h => by cases h

end

namespace Codec
variable {τ σ α β : Type}

/-- `dec ∘ enc` only: `dec` on JSON that `enc` never prints is not characterised and is not serde's (the key `"01"`
reads as 1) -/
def RoundTrip (c : Codec τ) : Prop := ∀ x j, c.enc x = .ok j → c.dec j = some x
def Total (c : Codec τ) : Prop := ∀ x, ∃ j, c.enc x = .ok j
def Fails (c : Codec τ) (x : τ) : Prop := ∃ e, c.enc x = .error e
def OnlyKeyError (c : Codec τ) : Prop := ∀ x e, c.enc x = .error e → e = keyMustBeString

/-- for a model type wider than the Rust type; the one source is `keyset_roundTripOn` -/
def RoundTripOn {τ : Type} (P : τ → Prop) (c : Codec τ) : Prop := ∀ x, P x → ∀ j, c.enc x = .ok j → c.dec j = some x

variable {c : Codec τ}

theorem RoundTrip.on (h : c.RoundTrip) (P : τ → Prop) : c.RoundTripOn P := fun x _ => h x

/-- the left side is what the `CanRestart` of Spec/SysPersist.lean and the `shipOp` steps ask for -/
theorem RoundTrip.readable_iff (hc : c.RoundTrip) {x : τ} :
    (∃ j x', c.enc x = .ok j ∧ c.dec j = some x') ↔ ∃ j, c.enc x = .ok j := by
  constructor
  · rintro ⟨j, _, he, _⟩; exact ⟨j, he⟩
  · rintro ⟨j, he⟩; exact ⟨j, x, he, hc x j he⟩

theorem not_fails_iff {x : τ} : ¬ c.Fails x ↔ ∃ j, c.enc x = .ok j := by
  unfold Fails
  cases h : c.enc x <;> simp

theorem total_iff : c.Total ↔ ∀ x, ¬ c.Fails x := forall_congr' fun _ => not_fails_iff.symm

theorem Total.not_fails (h : c.Total) (x : τ) : ¬ c.Fails x := total_iff.mp h x
theorem Total.onlyKeyError (h : c.Total) : c.OnlyKeyError :=
  fun x e he => absurd ⟨e, he⟩ (h.not_fails x)

theorem decAll_of_encAll {f : τ → Except String Json} {g : Json → Option τ} {l : List τ}
    (hx : ∀ x ∈ l, ∀ j, f x = .ok j → g j = some x) : ∀ {js : List Json}, encAll f l = .ok js → decAll g js = some l := by
  induction l with
  | nil => intro _ h; cases h; rfl
  | cons x t ih =>
    intro _ h
    obtain ⟨j, hj, h⟩ := Except.bind_eq_ok.mp h
    obtain ⟨js', hjs, h⟩ := Except.bind_eq_ok.mp h
    cases h
    have hx := List.forall_mem_cons.mp hx
    rewrite [decAll, hx.1 j hj, ih hx.2 hjs]; rfl

theorem encAll_onlyError {f : τ → Except String Json} {K : String} {l : List τ} (hx : ∀ x ∈ l, ∀ e, f x = .error e → e = K) :
    ∀ e, encAll f l = .error e → e = K := by
  induction l with
  | nil => intro _ h; cases h
  | cons x t ih =>
    have hx := List.forall_mem_cons.mp hx
    exact Except.onlyError_bind hx.1 fun _ => Except.onlyError_bind (ih hx.2) fun _ => Except.onlyError_pure

theorem encAll_fails {f : τ → Except String Json} {l : List τ} :
    (∃ e, encAll f l = .error e) ↔ ∃ x ∈ l, ∃ e, f x = .error e := by
  induction l with
  | nil => exact iff_of_false (by rintro ⟨_, ⟨⟩⟩) (by rintro ⟨_, ⟨⟩, _⟩)
  | cons x t ih =>
    refine (Except.fails_bind fun _ => Except.fails_bind_pure).trans ?_
    simp only [ih, List.mem_cons, exists_eq_or_imp]

theorem nat_roundTrip : nat.RoundTrip := fun _ _ h => by cases h; rfl
theorem nat_total : nat.Total := fun _ => ⟨_, rfl⟩

theorem map_roundTrip {f : τ → σ} {g : σ → τ} (hc : c.RoundTrip) (hfg : ∀ s, f (g s) = s) : (map f g c).RoundTrip := by
  intro s j h
  show (c.dec j).map f = some s
  rw [hc _ _ h, Option.map_some, hfg]
theorem map_total {f : τ → σ} {g : σ → τ} (hc : c.Total) : (map f g c).Total := fun s => hc (g s)
theorem map_fails {f : τ → σ} {g : σ → τ} {c : Codec τ} {s : σ} : (map f g c).Fails s ↔ c.Fails (g s) := Iff.rfl
theorem map_onlyKeyError {f : τ → σ} {g : σ → τ} {c : Codec τ} (hc : c.OnlyKeyError) : (map f g c).OnlyKeyError :=
  fun s e h => hc (g s) e h

theorem list_roundTrip (hc : c.RoundTrip) : (list c).RoundTrip := by
  intro l j h
  obtain ⟨js, hjs, h⟩ := Except.bind_eq_ok.mp h
  cases h
  exact decAll_of_encAll (fun x _ => hc x) hjs
theorem list_fails {c : Codec τ} {l : List τ} : (list c).Fails l ↔ ∃ x ∈ l, c.Fails x :=
  Except.fails_bind_pure.trans encAll_fails
theorem list_total (hc : c.Total) : (list c).Total :=
  total_iff.mpr fun _ h => by obtain ⟨x, _, he⟩ := list_fails.mp h; exact hc.not_fails x he
theorem list_onlyKeyError {c : Codec τ} (hc : c.OnlyKeyError) : (list c).OnlyKeyError :=
  fun _ => Except.onlyError_bind (encAll_onlyError fun x _ => hc x) fun _ => Except.onlyError_pure

theorem pair_roundTrip {a : Codec α} {b : Codec β} (ha : a.RoundTrip) (hb : b.RoundTrip) : (pair a b).RoundTrip := by
  intro p j h
  obtain ⟨x, hx, h⟩ := Except.bind_eq_ok.mp h
  obtain ⟨y, hy, h⟩ := Except.bind_eq_ok.mp h
  cases h
  show (a.dec x >>= fun u => b.dec y >>= fun v => some (u, v)) = some p
  rewrite [ha _ _ hx, hb _ _ hy]; rfl
theorem pair_fails {a : Codec α} {b : Codec β} {p : α × β} : (pair a b).Fails p ↔ a.Fails p.1 ∨ b.Fails p.2 :=
  Except.fails_bind fun _ => Except.fails_bind_pure
theorem pair_total {a : Codec α} {b : Codec β} (ha : a.Total) (hb : b.Total) : (pair a b).Total :=
  total_iff.mpr fun _ h => (pair_fails.mp h).elim (ha.not_fails _) (hb.not_fails _)
theorem pair_onlyKeyError {a : Codec α} {b : Codec β} (ha : a.OnlyKeyError) (hb : b.OnlyKeyError) :
    (pair a b).OnlyKeyError :=
  fun _ => Except.onlyError_bind (ha _) fun _ => Except.onlyError_bind (hb _) fun _ => Except.onlyError_pure

end Codec

/-- the value read back is the value written -/
theorem Codec.RoundTripOn.restored {τ : Type} {P : τ → Prop} {c : Codec τ} (hc : c.RoundTripOn P) {x x' : τ} {j : Json}
    (hx : P x) (he : c.enc x = .ok j) (hd : c.dec j = some x') : x' = x :=
  Option.some.inj (hd.symm.trans (hc x hx j he))

theorem Codec.RoundTrip.restored {τ : Type} {c : Codec τ} (hc : c.RoundTrip) {x x' : τ} {j : Json}
    (he : c.enc x = .ok j) (hd : c.dec j = some x') : x' = x := (hc.on fun _ => True).restored trivial he hd

def KeyCodec.RoundTrip {κ : Type} (k : KeyCodec κ) : Prop := ∀ a, k.ofKey (k.toKey a) = some a

theorem KeyCodec.nat_roundTrip : KeyCodec.nat.RoundTrip := by
  -- decimal printing and parsing: `simp` closes it with `Nat.toNat?_repr`
  intro n; simp [KeyCodec.nat, toString]

structure Scalar.Lawful {τ : Type} (s : Scalar τ) : Prop where
  rt : s.val.RoundTrip
  total : s.val.Total
  key : s.key.RoundTrip

theorem Scalar.nat_lawful : Scalar.nat.Lawful := ⟨Codec.nat_roundTrip, Codec.nat_total, KeyCodec.nat_roundTrip⟩

section
variable {κ ν : Type} [LinOrd κ]

theorem FMap.get?_ofList {l : List (κ × ν)} (hs : AL.Sorted l) (x : κ) : (FMap.ofList l).get? x = AL.get? l x := by
  refine (AL.foldl_obs (fun (m : FMap κ ν) p => m.insert p.1 p.2) (fun m a => m.get? a) ?_ ?_ hs ∅ x).trans ?_
  · intro s k v a h; simp only [FMap.get?_insert, if_neg h]
  · intro s s' k v _; simp only [FMap.get?_insert, if_true]
  · cases AL.get? l x <;> simp

theorem FMap.ofList_l (m : FMap κ ν) : FMap.ofList m.l = m := FMap.ext (FMap.get?_ofList m.sorted)

theorem FSet.ofElems_elems (s : FSet κ) : FSet.ofElems (FSet.elems s) = s := by
  -- on `κ × Unit`, `p ↦ (p.1, ())` is the identity (`rfl`, by eta for `Unit`)
  rewrite [FSet.ofElems, FSet.elems, List.map_map, List.map_id'' (f := _ ∘ _) fun _ => rfl]
  exact FMap.ofList_l s

theorem FSet.elems_ofElems {l : List κ} (h : l.Pairwise (· < ·)) : FSet.elems (FSet.ofElems l) = l := by
  have hs : AL.Sorted (l.map (fun k => (k, ()))) := by rewrite [AL.Sorted, List.pairwise_map]; exact h
  have e : FSet.ofElems l = ⟨_, hs⟩ := FMap.ofList_l (⟨_, hs⟩ : FSet κ)
  rw [e, FSet.elems, List.map_map, List.map_id'' (f := _ ∘ _) fun _ => rfl]
end

namespace Codec
variable {κ ν : Type} {k : KeyCodec κ} {c : Codec ν} {a : Codec κ}

theorem decFields_of_encFields (hk : k.RoundTrip) (hc : c.RoundTrip) {l : List (κ × ν)} :
    ∀ {fs : List (String × Json)}, encFields k c l = .ok fs → decFields k c fs = some l := by
  induction l with
  | nil => intro _ h; cases h; rfl
  | cons p t ih =>
    intro _ h
    obtain ⟨j, hj, h⟩ := Except.bind_eq_ok.mp h
    obtain ⟨js, hjs, h⟩ := Except.bind_eq_ok.mp h
    cases h
    rewrite [decFields, hk p.1, hc p.2 j hj, ih hjs]; rfl

theorem encFields_eq (k : KeyCodec κ) (c : Codec ν) (l : List (κ × ν)) :
    encFields k c l = (encAll (fun p => c.enc p.2) l).map fun js => (l.map fun p => k.toKey p.1).zip js := by
  induction l with
  | nil => rfl
  | cons p t ih =>
    rewrite [encFields, encAll, ih]
    cases c.enc p.2 with
    | error _ => rfl
    | ok _ => cases encAll (fun p => c.enc p.2) t <;> rfl

theorem encFields_error (k : KeyCodec κ) (c : Codec ν) (l : List (κ × ν)) {e : String} :
    encFields k c l = .error e ↔ encAll (fun p => c.enc p.2) l = .error e := by
  rewrite [encFields_eq]; cases encAll (fun p => c.enc p.2) l <;> simp [Except.map]

variable [LinOrd κ]

theorem fmapObj_roundTrip (hk : k.RoundTrip) (hc : c.RoundTrip) : (fmapObj k c).RoundTrip := by
  intro m j h
  obtain ⟨fs, hfs, h⟩ := Except.bind_eq_ok.mp h
  cases h
  show (decFields k c fs).map FMap.ofList = some m
  rw [decFields_of_encFields hk hc hfs, Option.map_some, FMap.ofList_l]

theorem fmapObj_fails {m : FMap κ ν} : (fmapObj k c).Fails m ↔ ∃ a v, m.get? a = some v ∧ c.Fails v :=
  Except.fails_bind_pure.trans <| (exists_congr fun _ => encFields_error ..).trans <| encAll_fails.trans <| by
    simp only [Prod.exists, FMap.mem_l_iff, Fails]

theorem fmapObj_total (hc : c.Total) : (fmapObj k c).Total :=
  total_iff.mpr fun _ h => by obtain ⟨_, v, _, he⟩ := fmapObj_fails.mp h; exact hc.not_fails v he

theorem fmapObj_onlyKeyError (hc : c.OnlyKeyError) : (fmapObj k c).OnlyKeyError :=
  fun _ => Except.onlyError_bind (fun e h => encAll_onlyError (fun p _ => hc p.2) e ((encFields_error ..).mp h))
    fun _ => Except.onlyError_pure

theorem fmapVec_roundTrip (ha : a.RoundTrip) (hc : c.RoundTrip) : (fmapVec a c).RoundTrip :=
  map_roundTrip (list_roundTrip (pair_roundTrip ha hc)) FMap.ofList_l
theorem fmapVec_total (ha : a.Total) (hc : c.Total) : (fmapVec a c).Total :=
  map_total (list_total (pair_total ha hc))

theorem fset_roundTrip (ha : a.RoundTrip) : (fset a).RoundTrip :=
  map_roundTrip (list_roundTrip ha) FSet.ofElems_elems
theorem fset_total (ha : a.Total) : (fset a).Total := map_total (list_total ha)

end Codec

@[simp] theorem Json.nat?_natCast (n : Nat) : Json.nat? (.num (n : Int)) = some n := rfl

namespace Json
variable {y : Json} {l : List (String × Json)}

theorem field?_cons_self (n : String) : (obj ((n, y) :: l)).field? n = some y := if_pos rfl
theorem field?_cons_of_ne {k n : String} (h : k ≠ n) : (obj ((k, y) :: l)).field? n = (obj l).field? n := if_neg h

end Json

/-- the named fields of a struct (or of an enum variant) being written, each with the fact `rt` that its codec reads back
what it writes for THIS value (not `c.RoundTrip`: so `keyset_roundTripOn hk.rt ks wf` can enter, `C19.map_op_roundtrip`).
The index `τ` is the type of the constructor that reading the fields back feeds, `α₁ → … → αₙ → ρ`. -/
inductive Fields (ρ : Type) : Type → Type 1
  | nil : Fields ρ ρ
  | cons {α τ : Type} (name : String) {c : Codec α} {v : α} (rt : ∀ j, c.enc v = .ok j → c.dec j = some v)
      (rest : Fields ρ τ) : Fields ρ (α → τ)

namespace Fields
variable {ρ : Type}

def names : {τ : Type} → Fields ρ τ → List String
  | _, nil => []
  | _, cons n _ r => n :: r.names

/-- derived `Serialize`: encode the fields in declaration order, hand the object's field list to `k` -/
def enc : {τ : Type} → Fields ρ τ → (List (String × Json) → Except String Json) → Except String Json
  | _, nil, k => k []
  | _, cons (c := c) (v := v) n _ r, k => c.enc v >>= fun y => r.enc fun l => k ((n, y) :: l)

/-- derived `Deserialize`: look each field up by name, decode it, feed the constructor -/
def dec : {τ : Type} → Fields ρ τ → Json → τ → Option ρ
  | _, nil, _, ctor => some ctor
  | _, cons (c := c) n _ r, j, ctor => (j.field? n).bind c.dec >>= fun x => r.dec j (ctor x)

/-- the constructor applied to the values that were written -/
def app : {τ : Type} → Fields ρ τ → τ → ρ
  | _, nil, ctor => ctor
  | _, cons (v := v) _ _ r, ctor => r.app (ctor v)

theorem dec_cons_of_not_mem {n : String} {y : Json} {l : List (String × Json)} {τ : Type} (F : Fields ρ τ) :
    ∀ ctor : τ, n ∉ F.names → F.dec (.obj ((n, y) :: l)) ctor = F.dec (.obj l) ctor := by
  induction F with
  | nil => exact fun _ _ => rfl
  | cons n' _ r ih =>
    intro ctor h
    have h' := not_or.mp (mt List.mem_cons.mpr h)
    simp only [dec, Json.field?_cons_of_ne h'.1, ih _ h'.2]

/-- whatever `k` wraps the field list in: if writing succeeds, `k` was given a list from which `dec` reads the values
back.  Field names must differ, since a field is found by the first occurrence of its name. -/
theorem dec_of_enc {τ : Type} (F : Fields ρ τ) : ∀ {k : List (String × Json) → Except String Json} {j : Json},
    F.names.Nodup → F.enc k = .ok j → ∃ l, k l = .ok j ∧ ∀ ctor, F.dec (.obj l) ctor = some (F.app ctor) := by
  induction F with
  | nil => exact fun _ h => ⟨[], h, fun _ => rfl⟩
  | cons n rt r ih =>
    intro k j hn h
    have hn := List.nodup_cons.mp hn
    obtain ⟨y, hy, h⟩ := Except.bind_eq_ok.mp h
    obtain ⟨l, hl, hdec⟩ := ih hn.2 h
    refine ⟨(n, y) :: l, hl, fun ctor => ?_⟩
    simp only [dec, Json.field?_cons_self, Option.bind_some, rt y hy, dec_cons_of_not_mem r _ hn.1, hdec]
    rfl

/-- a struct: the fields are the whole object.  The default for `hn` is where "the field names of this struct differ" is
checked, at every use. -/
theorem struct_roundTrip {τ : Type} (F : Fields ρ τ) (ctor : τ) {j : Json} (h : F.enc (fun l => pure (.obj l)) = .ok j)
    (hn : F.names.Nodup := by simp [Fields.names]) : F.dec j ctor = some (F.app ctor) := by
  obtain ⟨l, hl, hdec⟩ := dec_of_enc F hn h
  cases hl; exact hdec ctor

/-- an externally tagged enum variant `{"Tag": {fields}}`, read by a decoder `D` that on such an object reads the fields.
For the model's decoders that is evaluation (`variant?`, then comparing tags), and `D` is `_`, found from the goal.  The
uses prove `hD` by unfolding the decoder and deciding its tag tests in turn (`if_pos rfl`, `if_neg`), which fails on a
misspelt tag; `fun _ => rfl` proves it too, but compares the string literals character by character in the elaborator. -/
theorem variant_roundTrip {τ : Type} (tag : String) (F : Fields ρ τ) (ctor : τ) {j : Json}
    (h : F.enc (fun l => pure (.obj [(tag, .obj l)])) = .ok j) (D : Json → Option ρ)
    (hD : ∀ l, D (.obj [(tag, .obj l)]) = F.dec (.obj l) ctor) (hn : F.names.Nodup := by simp [Fields.names]) :
    D j = some (F.app ctor) := by
  obtain ⟨l, hl, hdec⟩ := dec_of_enc F hn h
  cases hl; exact (hD l).trans (hdec ctor)

end Fields

section
variable {α : Type} {a : Codec α} {k : KeyCodec α}

/- Why this type-checks: `(dotCodec a).enc d = .ok j → (dotCodec a).dec j = some d` is the statement of
`struct_roundTrip`, with `ctor := Dot.mk`, up to `rfl`.  The `do` blocks of Model/Codec.lean are the `>>=` chains of
`Fields.enc` / `Fields.dec` (`.num d.counter`, written directly, is `Codec.nat.enc _ >>= k` reduced), and `F.app Dot.mk`
is `d` by structure eta.  A model edited out of step fails here. -/
theorem dot_roundTrip (ha : a.RoundTrip) : (dotCodec a).RoundTrip := fun d _ h =>
  (Fields.cons "actor" (ha d.actor) (.cons "counter" (Codec.nat_roundTrip d.counter) .nil)).struct_roundTrip Dot.mk h
theorem dot_total (ha : a.Total) : (dotCodec a).Total :=
  fun d => Except.bind_isOk (ha d.actor) fun _ => ⟨_, rfl⟩

theorem ordDot_roundTrip (ha : a.RoundTrip) : (ordDotCodec a).RoundTrip := fun d _ h =>
  (Fields.cons "actor" (ha d.1) (.cons "counter" (Codec.nat_roundTrip d.2) .nil)).struct_roundTrip Prod.mk h
theorem ordDot_total (ha : a.Total) : (ordDotCodec a).Total :=
  fun d => Except.bind_isOk (ha d.1) fun _ => ⟨_, rfl⟩

theorem dir_roundTrip : dirCodec.RoundTrip := fun d _ h => by cases h; cases d <;> decide +kernel
theorem dir_total : dirCodec.Total := fun _ => ⟨_, rfl⟩

variable [LinOrd α]

theorem clock_roundTrip (hk : k.RoundTrip) : (clockCodec k).RoundTrip :=
  Codec.map_roundTrip (Codec.fmapObj_roundTrip hk Codec.nat_roundTrip) fun _ => rfl
theorem clock_total : (clockCodec k).Total := Codec.map_total (Codec.fmapObj_total Codec.nat_total)

theorem gcounter_roundTrip (hk : k.RoundTrip) : (gcounterCodec k).RoundTrip :=
  Codec.map_roundTrip (clock_roundTrip hk) fun _ => rfl
theorem gcounter_total : (gcounterCodec k).Total := Codec.map_total clock_total
end

section
variable {M K V VOp A : Type} [LinOrd M] [LinOrd K] [LinOrd A]
variable {m : Scalar M} {k : Scalar K} {a : Scalar A} {v : Codec V}

theorem deferred_roundTrip : (deferredCodec : Codec (FMap (VClock A) (FSet M))).RoundTrip := by
  intro d j h
  dsimp only [deferredCodec] at h
  split at h
  · next he => cases h; exact congrArg some ((FMap.eq_empty_iff_isEmpty d).mpr he).symm
  · cases h

theorem deferred_fails {d : FMap (VClock A) (FSet M)} : deferredCodec.Fails d ↔ d.isEmpty = false := by
  unfold Codec.Fails
  dsimp only [deferredCodec]
  cases h : d.isEmpty <;> simp

theorem deferred_onlyKeyError : (deferredCodec : Codec (FMap (VClock A) (FSet M))).OnlyKeyError := by
  intro d e h
  dsimp only [deferredCodec] at h
  split at h
  · cases h
  · cases h; rfl

theorem orswot_fails {s : Orswot M A} : (orswotCodec m a).Fails s ↔ s.deferred.isEmpty = false :=
  (Except.fails_bind fun _ => Except.fails_bind fun _ => Except.fails_bind_pure).trans <|
    (or_iff_right (clock_total.not_fails _)).trans <|
      (or_iff_right ((Codec.fmapObj_total clock_total).not_fails _)).trans deferred_fails

theorem mapEntry_roundTrip (ha : a.Lawful) (hv : v.RoundTrip) : (mapEntryCodec a v).RoundTrip :=
  fun e _ h => (Fields.cons "clock" (clock_roundTrip ha.key e.clock) (.cons "val" (hv e.val) .nil)).struct_roundTrip MapEntry.mk h

theorem mapEntry_fails {e : MapEntry V A} : (mapEntryCodec a v).Fails e ↔ v.Fails e.val :=
  (Except.fails_bind fun _ => Except.fails_bind_pure).trans (or_iff_right (clock_total.not_fails _))

theorem mapEntry_onlyKeyError (hv : v.OnlyKeyError) : (mapEntryCodec a v).OnlyKeyError :=
  fun _ => Except.onlyError_bind (clock_total.onlyKeyError _) fun _ => Except.onlyError_bind (hv _) fun _ => Except.onlyError_pure

theorem cmap_fails {s : CMap K V A} :
    (mapCodec k a v).Fails s ↔ (s.deferred.isEmpty = false ∨ ∃ key en, s.entries.get? key = some en ∧ v.Fails en.val) :=
  (Except.fails_bind fun _ => Except.fails_bind fun _ => Except.fails_bind_pure).trans <|
    (or_iff_right (clock_total.not_fails _)).trans <| Or.comm.trans <|
      or_congr deferred_fails (Codec.fmapObj_fails.trans <| by simp only [mapEntry_fails])

/- `Op::Rm.keyset` is a `BTreeSet` in the crate and a `List` in the model (Model/Map.lean).  This codec, and `mapOpCodec` built
from it, round-trip only on a predicate (everything else gets `RoundTripOn` from `RoundTrip.on`): the only reason for
`RoundTripOn`, `MapOp.WF` and, in the system model, `MapP.logOpsWF_run` and the `Q` of `MapP.runP_iff_run`. -/
theorem keyset_roundTripOn {k : Codec K} (hk : k.RoundTrip) : (keysetCodec k).RoundTripOn (fun ks => ks.Pairwise (· < ·)) := by
  intro ks hs j h
  have := Codec.list_roundTrip hk ks j h
  simp only [keysetCodec, Codec.fset, Codec.map, this, Option.map_some]
  rw [FSet.elems_ofElems hs]
theorem keyset_total {k : Codec K} (hk : k.Total) : (keysetCodec k).Total := Codec.list_total hk

def MapOp.WF (Q : VOp → Prop) : MapOp K VOp A → Prop
  | .rm _ ks => ks.Pairwise (· < ·)
  | .up _ _ op => Q op
end

theorem ofDigits32_digits32 (n : Nat) : ofDigits32 (digits32 n) = n := by
  induction n using digits32.induct with
  | case1 => rewrite [digits32]; rfl
  | case2 n h ih => rewrite [digits32, if_neg h, ofDigits32, ih]; exact Nat.mod_add_div n base32

theorem digits32_lt (n : Nat) : ∀ d ∈ digits32 n, d < base32 := by
  induction n using digits32.induct with
  | case1 => simp [digits32]
  | case2 n h ih =>
    rewrite [digits32, if_neg h]
    exact List.forall_mem_cons.mpr ⟨Nat.mod_lt _ (by decide), ih⟩

theorem decAll_nat_map (l : List Nat) : Codec.decAll Json.nat? (l.map (fun (d : Nat) => Json.num d)) = some l := by
  induction l with
  | nil => rfl
  | cons d t ih => rewrite [List.map_cons, Codec.decAll, Json.nat?_natCast, ih]; rfl

theorem bigInt_roundTrip : bigIntCodec.RoundTrip := by
  intro z j h
  cases h
  have hs : z.sign = -1 ∨ z.sign = 0 ∨ z.sign = 1 := by
    rcases z.sign_trichotomy with h | h | h
    · exact .inr (.inr h)
    · exact .inr (.inl h)
    · exact .inl h
  have hall : (digits32 z.natAbs).all (fun d => decide (d < base32)) = true :=
    List.all_eq_true.mpr fun d hd => decide_eq_true (digits32_lt _ d hd)
  dsimp only [bigIntCodec]
  rw [if_pos hs, decAll_nat_map, Option.bind_some, if_pos hall, ofDigits32_digits32, Int.sign_mul_natAbs]

theorem bigInt_total : bigIntCodec.Total := fun _ => ⟨_, rfl⟩

theorem rat_roundTrip : ratCodec.RoundTrip := by
  intro r j h
  obtain ⟨x, hx, h⟩ := Except.bind_eq_ok.mp h
  obtain ⟨y, hy, h⟩ := Except.bind_eq_ok.mp h
  cases h
  dsimp only [ratCodec, bind, pure]
  rw [bigInt_roundTrip _ _ hx, Option.bind_some, bigInt_roundTrip _ _ hy, Option.bind_some,
    if_neg (Int.ofNat_ne_zero.mpr r.den_nz), Rat.num_divInt_den]

theorem rat_total : ratCodec.Total :=
  fun r => Except.bind_isOk (bigInt_total r.num) fun _ => Except.bind_isOk (bigInt_total _) fun _ => ⟨_, rfl⟩

section
variable {τ : Type} {m : Codec τ}

theorem ident_roundTrip (hm : m.RoundTrip) : (identCodec m).RoundTrip :=
  Codec.map_roundTrip (Codec.list_roundTrip (Codec.pair_roundTrip rat_roundTrip hm)) fun _ => rfl
theorem ident_total (hm : m.Total) : (identCodec m).Total :=
  Codec.map_total (Codec.list_total (Codec.pair_total rat_total hm))
end

section
variable {H τ : Type} [LinOrd H] {h : Codec H} {v : Codec τ}

theorem node_roundTrip (hh : h.RoundTrip) (hv : v.RoundTrip) : (nodeCodec h v).RoundTrip :=
  fun n _ h => (Fields.cons "children" (Codec.fset_roundTrip hh n.children) (.cons "value" (hv n.value) .nil)).struct_roundTrip
    Node.mk h
theorem node_total (hh : h.Total) (hv : v.Total) : (nodeCodec h v).Total :=
  fun n => Except.bind_isOk (Codec.fset_total hh n.children) fun _ => Except.bind_isOk (hv n.value) fun _ => ⟨_, rfl⟩
end

end Crdt
