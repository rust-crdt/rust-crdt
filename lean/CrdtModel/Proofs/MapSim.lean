import CrdtModel.Model.Map
import CrdtModel.Proofs.OrswotBasic
/-! Key-level simulation: the triple (clock, entry clocks, deferred) of a `Map` behaves exactly like an `Orswot` of keys,
for EVERY value type.  (`Map::apply_keyset_rm` compares `self.clock.partial_cmp(&clock)` where `Orswot::apply_rm`
compares `clock.partial_cmp(&self.clock)`: the Map test is `¬ clock ≤ self.clock` for all clocks (`defersK_iff`), the Orswot
test only for clocks without stored zeros (`Orswot.defers_iff`), hence the `NoZero` premises.) -/
namespace Crdt

namespace FMap
variable {κ : Type} [LinOrd κ] {ν μ : Type}

def mapVal (f : ν → μ) (m : FMap κ ν) : FMap κ μ := m.filterMap (fun _ v => some (f v))

@[simp] theorem get?_mapVal (f : ν → μ) (m : FMap κ ν) (k : κ) : (m.mapVal f).get? k = (m.get? k).map f := by
  simp only [mapVal, get?_filterMap]; cases m.get? k <;> rfl

theorem mapVal_l (f : ν → μ) (m : FMap κ ν) : (m.mapVal f).l = m.l.map (fun p => (p.1, f p.2)) := by
  cases m with | mk l s =>
  simp only [mapVal, filterMap]
  induction l with
  | nil => rfl
  | cons hd t ih =>
    obtain ⟨k, v⟩ := hd
    simp only [AL.filterMap, List.map_cons]
    rw [ih (List.pairwise_cons.mp s).2]

theorem mapVal_insert (f : ν → μ) (m : FMap κ ν) (k : κ) (v : ν) : (m.insert k v).mapVal f = (m.mapVal f).insert k (f v) := by
  apply ext; intro x; simp only [get?_mapVal, get?_insert]; exact apply_ite (Option.map f) _ _ _

theorem mapVal_erase (f : ν → μ) (m : FMap κ ν) (k : κ) : (m.erase k).mapVal f = (m.mapVal f).erase k := by
  apply ext; intro x; simp only [get?_mapVal, get?_erase]; exact apply_ite (Option.map f) _ _ _

theorem mapVal_empty (f : ν → μ) : (∅ : FMap κ ν).mapVal f = ∅ := by
  apply ext; intro x; simp

theorem contains_mapVal (f : ν → μ) (m : FMap κ ν) (k : κ) : (m.mapVal f).contains k = m.contains k := by
  simp only [contains, get?_mapVal]; cases m.get? k <;> rfl

end FMap

namespace CMap
variable {K V VOp A : Type} [LinOrd K] [LinOrd A]

/-- the Orswot of keys inside a Map -/
def keysView (m : CMap K V A) : Orswot K A := ⟨m.clock, m.entries.mapVal (·.clock), m.deferred⟩

@[simp] theorem keysView_clock (m : CMap K V A) : m.keysView.clock = m.clock := rfl
@[simp] theorem keysView_deferred (m : CMap K V A) : m.keysView.deferred = m.deferred := rfl

theorem get?_keysView (m : CMap K V A) (k : K) : m.keysView.entries.get? k = (m.entries.get? k).map (·.clock) :=
  FMap.get?_mapVal _ _ k

theorem get_val_isSome (m : CMap K V A) (k : K) : (m.get k).val.isSome = (m.keysView.contains k).val := by
  simp only [CMap.get, Orswot.contains, get?_keysView, Option.isSome_map]

theorem get_rmClock (m : CMap K V A) (k : K) : (m.get k).rmClock = (m.keysView.contains k).rmClock := by
  simp only [CMap.get, Orswot.contains, get?_keysView]

theorem entryGet_keysView (m : CMap K V A) (k : K) (a : A) :
    Orswot.entryGet m.keysView.entries k a = (m.get k).rmClock.get a := by
  rw [get_rmClock, Orswot.rmClock_contains]

theorem get?_rmKey_self (ops : ValOps V VOp A) (c : VClock A) (e : FMap K (MapEntry V A)) (k : K) :
    (rmKey ops c e k).get? k = (e.get? k).bind (fun en =>
      if (en.clock.resetRemove c).isEmpty then none else some ⟨en.clock.resetRemove c, ops.resetRemove en.val c⟩) := by
  unfold rmKey
  cases h : e.get? k with
  | none => simp only [Option.bind_none]; exact h
  | some en =>
    simp only [Option.bind_some]
    split <;> simp

theorem get?_rmKey_other (ops : ValOps V VOp A) (c : VClock A) (e : FMap K (MapEntry V A)) (k k' : K)
    (hne : k' ≠ k) : (rmKey ops c e k).get? k' = e.get? k' := by
  unfold rmKey
  cases e.get? k with
  | none => rfl
  | some en => simp only; split <;> simp [hne]

theorem rmKey_sim (ops : ValOps V VOp A) (c : VClock A) (e : FMap K (MapEntry V A)) (k : K) :
    (rmKey ops c e k).mapVal (·.clock) = Orswot.rmMember c (e.mapVal (·.clock)) k := by
  unfold rmKey Orswot.rmMember
  rewrite [FMap.get?_mapVal]
  cases e.get? k with
  | none => rfl
  | some en => simp only [Option.map_some, apply_ite (FMap.mapVal _), FMap.mapVal_erase, FMap.mapVal_insert]

/-- `l` is the carrier list of an `FSet K` (= `FMap K Unit`), hence pairs `K × Unit` -/
theorem foldl_rmKey_sim (ops : ValOps V VOp A) (c : VClock A) (l : List (K × Unit)) (e : FMap K (MapEntry V A)) :
    (l.foldl (fun e p => rmKey ops c e p.1) e).mapVal (·.clock) =
      l.foldl (fun e p => Orswot.rmMember c e p.1) (e.mapVal (·.clock)) :=
  (List.foldl_hom (FMap.mapVal (·.clock)) fun e p => (rmKey_sim ops c e p.1).symm).symm

theorem get?_applyKeysetRm (ops : ValOps V VOp A) (s : CMap K V A) (ks : FSet K) (c : VClock A) (k : K) :
    (applyKeysetRm ops s ks c).entries.get? k =
      if ks.contains k then (rmKey ops c s.entries k).get? k else s.entries.get? k := by
  show (ks.l.foldl (fun e p => rmKey ops c e p.1) s.entries).get? k = if (ks.get? k).isSome then _ else _
  rewrite [FMap.foldl_obs (fun e (p : K × Unit) => rmKey ops c e p.1) (fun e k => e.get? k)
    (fun e k _ k' hne => get?_rmKey_other ops c e k k' hne)
    (fun e e' k _ he => by simp only [get?_rmKey_self, he]) ks s.entries k]
  cases ks.get? k <;> rfl

/-- does `apply_keyset_rm` keep the remove around? -/
def defersK (clock c : VClock A) : Bool :=
  match clock.partialCmp c with
  | none | some .lt => true
  | _ => false

theorem deferred_applyKeysetRm (ops : ValOps V VOp A) (s : CMap K V A) (ks : FSet K) (c : VClock A) :
    (applyKeysetRm ops s ks c).deferred = if defersK s.clock c then Orswot.deferInsert s.deferred c ks else s.deferred := by
  unfold applyKeysetRm defersK
  simp only
  cases s.clock.partialCmp c with
  | none => rfl
  | some o => cases o <;> rfl

theorem defersK_iff (clock c : VClock A) : defersK clock c = true ↔ ¬ c.le clock := by
  unfold defersK
  rcases VClock.partialCmp_cases clock c with ⟨h, e⟩ | ⟨h, _, l⟩ | ⟨h, _, n, _⟩ | ⟨h, _, n, _⟩ <;> rewrite [h]
  · subst e; simp [VClock.le_refl]
  · simp [l]
  · simp [n]
  · simp [n]

theorem defersK_eq_defers {clock c : VClock A} (h1 : clock.NoZero) (h2 : c.NoZero) :
    defersK clock c = Orswot.defers c clock :=
  Bool.eq_iff_iff.mpr ((defersK_iff clock c).trans (Orswot.defers_iff h2 h1).symm)

theorem applyKeysetRm_sim (ops : ValOps V VOp A) (s : CMap K V A) (ks : FSet K) (c : VClock A)
    (h1 : s.clock.NoZero) (h2 : c.NoZero) :
    (applyKeysetRm ops s ks c).keysView = Orswot.applyRm s.keysView ks c :=
  Orswot.ext rfl (foldl_rmKey_sim ops c ks.l s.entries)
    (by rewrite [Orswot.deferred_applyRm, keysView_clock, ← defersK_eq_defers h1 h2]; exact deferred_applyKeysetRm ops s ks c)

theorem foldKeysetRm_sim (ops : ValOps V VOp A) (l : List (VClock A × FSet K)) (s : CMap K V A)
    (h1 : s.clock.NoZero) (h2 : ∀ p ∈ l, p.1.NoZero) :
    (l.foldl (fun acc p => applyKeysetRm ops acc p.2 p.1) s).keysView = Orswot.foldRm l s.keysView := by
  induction l generalizing s with
  | nil => rfl
  | cons hd t ih =>
    have h := List.forall_mem_cons.mp h2
    exact (ih (applyKeysetRm ops s hd.2 hd.1) h1 h.2).trans
      (congrArg (Orswot.foldRm t) (applyKeysetRm_sim ops s hd.2 hd.1 h1 h.1))

theorem applyDeferred_sim (ops : ValOps V VOp A) (s : CMap K V A) (h1 : s.clock.NoZero)
    (h2 : ∀ p ∈ s.deferred.l, p.1.NoZero) :
    (applyDeferred ops s).keysView = Orswot.applyDeferred s.keysView := by
  unfold applyDeferred Orswot.applyDeferred
  exact foldKeysetRm_sim ops s.deferred.l { s with deferred := ∅ } h1 h2

theorem apply_sim (ops : ValOps V VOp A) (s : CMap K V A) (op : MapOp K VOp A)
    (h1 : s.clock.NoZero) (h2 : ∀ p ∈ s.deferred.l, p.1.NoZero)
    (h3 : ∀ c ks, op = .rm c ks → c.NoZero) :
    (apply ops s op).keysView = Orswot.apply s.keysView (keyOp op) := by
  cases op with
  | rm c ks => exact applyKeysetRm_sim ops s _ c h1 (h3 c ks rfl)
  | up d k o =>
    unfold apply Orswot.apply keyOp
    rewrite [apply_ite keysView]
    refine ite_congr rfl (fun _ => rfl) fun _ => (applyDeferred_sim ops _ ?_ ?_).trans (congrArg _ ?_)
    · exact VClock.noZero_apply h1 d
    · exact h2
    · simp only [keysView, List.foldl_cons, List.foldl_nil, FMap.mapVal_insert, FMap.get?_mapVal]
      cases s.entries.get? k <;> rfl

theorem mergeKeep_sim (ops : ValOps V VOp A) (s o : CMap K V A) :
    (mergeKeep ops s o).mapVal (·.clock) = Orswot.mergeKeep s.keysView o.keysView := by
  apply FMap.ext
  intro k
  simp only [mergeKeep, Orswot.mergeKeep, keysView, FMap.get?_mapVal, FMap.get?_filterMap, FMap.contains_mapVal]
  cases s.entries.get? k with
  | none => rfl
  -- `rfl`: the two sides differ in the `Decidable` instances of the tests only
  | some en => simp only [Option.bind_some, Option.map_some, apply_ite (Option.map _), Option.map_none]; rfl

theorem mergeStep_sim (ops : ValOps V VOp A) (s o : CMap K V A) (e : FMap K (MapEntry V A)) (k : K) (en : MapEntry V A) :
    (mergeStep ops s o e k en).mapVal (·.clock) =
      Orswot.mergeStep s.keysView o.keysView (e.mapVal (·.clock)) k en.clock := by
  unfold mergeStep Orswot.mergeStep
  rewrite [FMap.get?_mapVal]
  -- the closing `rfl`s: what is left differs in `s.keysView.clock` for `s.clock` only (likewise `o`)
  cases e.get? k with
  | none => simp only [Option.map_none, apply_ite (FMap.mapVal _), FMap.mapVal_insert]; rfl
  | some ours => simp only [Option.map_some, apply_ite (FMap.mapVal _), FMap.mapVal_erase, FMap.mapVal_insert]; rfl

theorem mergeLoop_sim (ops : ValOps V VOp A) (s o : CMap K V A) (l : List (K × MapEntry V A)) (e : FMap K (MapEntry V A)) :
    (l.foldl (fun e p => mergeStep ops s o e p.1 p.2) e).mapVal (·.clock) =
      (l.map (fun p => (p.1, p.2.clock))).foldl (fun e p => Orswot.mergeStep s.keysView o.keysView e p.1 p.2)
        (e.mapVal (·.clock)) := by
  induction l generalizing e with
  | nil => rfl
  | cons hd t ih => simp only [List.foldl_cons, List.map_cons]; rw [ih, mergeStep_sim]

/-- `merge` after its two entry loops.  `applyDeferred` runs on `s2`, whose pending removes are those of `s` and some of `l`:
hence `h2` and `h3`. -/
theorem mergeRest_sim (ops : ValOps V VOp A) (l : List (VClock A × FSet K)) (c : VClock A) (s : CMap K V A)
    (h1 : s.clock.NoZero) (h2 : ∀ p ∈ s.deferred.l, p.1.NoZero) (h3 : ∀ p ∈ l, p.1.NoZero) :
    let s2 := l.foldl (fun acc p => applyKeysetRm ops acc p.2 p.1) s
    let t2 := Orswot.foldRm l s.keysView
    (applyDeferred ops { s2 with clock := s2.clock.merge c }).keysView =
      Orswot.applyDeferred { t2 with clock := t2.clock.merge c } := by
  intro s2 t2
  have e2 : s2.keysView = t2 := foldKeysetRm_sim ops l s h1 h3
  have hc : s2.clock = s.clock := by rw [← keysView_clock, e2, Orswot.clock_foldRm, keysView_clock]
  have hd : ∀ p ∈ s2.deferred.l, p.1.NoZero := by
    intro p hp
    have hk := (Orswot.dKey_iff_mem _ _).mpr ⟨p, hp, rfl⟩
    rewrite [← keysView_deferred, e2, Orswot.dKey_foldRm, Orswot.dKey_iff_mem] at hk
    rcases hk with ⟨q, hq, e⟩ | ⟨_, q, hq, e⟩
    · exact e ▸ h2 q hq
    · exact e ▸ h3 q hq
  have hm : (s2.clock.merge c).NoZero := hc ▸ VClock.noZero_merge h1 c
  exact (applyDeferred_sim ops { s2 with clock := s2.clock.merge c } hm hd).trans (congrArg _ (e2 ▸ rfl))

/-- `Map::merge` is, at key level, `Orswot::merge`.  `o.clock` needs no `NoZero`: `VClock.merge` inserts through `apply`,
which stores no zero (`VClock.noZero_merge`). -/
theorem merge_sim (ops : ValOps V VOp A) (s o : CMap K V A) (h1 : s.clock.NoZero)
    (h2 : ∀ p ∈ s.deferred.l, p.1.NoZero) (h3 : ∀ p ∈ o.deferred.l, p.1.NoZero) :
    (merge ops s o).keysView = Orswot.merge s.keysView o.keysView := by
  unfold merge Orswot.merge
  simp only
  refine (mergeRest_sim ops o.deferred.l o.clock _ ?_ ?_ h3).trans ?_
  · exact h1
  · exact h2
  · simp only [keysView, Orswot.foldRm]
    rewrite [mergeLoop_sim, mergeKeep_sim, FMap.mapVal_l]
    rfl -- the sides differ in `keysView` only: folded where the lemmas put it, unfolded by the `simp only`

end CMap
end Crdt
