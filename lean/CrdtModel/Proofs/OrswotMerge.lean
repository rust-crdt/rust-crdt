import CrdtModel.Proofs.OrswotApply
import CrdtModel.Proofs.ResetRemove
set_option linter.unusedSectionVars false
/-! `rep_merge` for Orswot: merging two states that represent `K` and `K'` (two add-closed knowledge sets of one
well-formed log) yields the state that represents `K ++ K'`.  `merge` runs in three stages (`merge_eq`).  Per (member,
actor) the first leaves the arithmetic function `r0` of the two witnesses and the two clocks; under add-closure `r0` has
a closed form (`r0_Ev`).  The other two stages subtract the two deferred tables from it, which hold less than the
removes known to the two sides, but lack only what lies within the owner's clock: that is enough (`merge_thr`). -/
namespace Crdt
namespace OrswotSpec
variable {M A : Type} [LinOrd M] [LinOrd A]
open Orswot

/-- what the two entry loops of `merge` leave for one (member, actor): `e1,e2` our/their witness, `c1,c2` our/their clock.
For a member both sides hold (src/orswot.rs:163-165) the summands are, in this order, `VClock::intersection(&clock, our_clock)`,
`clock.clone_without(&self.clock)` and `our_clock.clone_without(&other.clock)`.  A member only one side holds (the
`filter_map` of the first loop, the `else` branch of the second) is the instance `e2 = 0` resp. `e1 = 0`
(`r0_zero_right`, `r0_zero_left`), so one formula describes all branches (`entryGet_mergeEntries`). -/
def r0 (e1 e2 c1 c2 : Nat) : Nat :=
  max (max (if e2 = e1 then e2 else 0) (if e2 > c1 then e2 else 0)) (if e1 > c2 then e1 else 0)

theorem ite_zero_le (p : Prop) [Decidable p] (e : Nat) : (if p then e else 0) ≤ e := by
  split
  · exact Nat.le_refl e
  · exact Nat.zero_le e

theorem r0_comm (e1 e2 c1 c2 : Nat) : r0 e1 e2 c1 c2 = r0 e2 e1 c2 c1 := by
  have : (if e2 = e1 then e2 else 0) = (if e1 = e2 then e1 else 0) := by
    by_cases h : e1 = e2
    · rw [if_pos h, if_pos h.symm, h]
    · rw [if_neg h, if_neg (Ne.symm h)]
  unfold r0; rw [this, Nat.max_assoc, Nat.max_assoc, Nat.max_comm (if e2 > c1 then e2 else 0)]

theorem r0_zero_left (e2 c1 c2 : Nat) : r0 0 e2 c1 c2 = if e2 > c1 then e2 else 0 := by
  have : (if e2 = 0 then e2 else 0) = 0 := ite_eq_right_iff.mpr id
  unfold r0; rw [if_neg (Nat.not_lt_zero c2), Nat.max_zero, this, Nat.zero_max]

theorem r0_zero_right (e1 c1 c2 : Nat) : r0 e1 0 c1 c2 = if e1 > c2 then e1 else 0 := by
  rw [r0_comm, r0_zero_left]

theorem r0_right {e1 e2 c1 c2 : Nat} (h1 : e1 ≤ c2) (h2 : e2 = 0 ∨ c1 < e2) : r0 e1 e2 c1 c2 = e2 := by
  unfold r0; rewrite [if_neg (Nat.not_lt.2 h1), Nat.max_zero]
  rcases h2 with rfl | h
  · rewrite [if_neg (Nat.not_lt_zero c1), Nat.max_zero]; exact Nat.le_zero.1 (ite_zero_le _ 0)
  · rewrite [if_pos h]; exact Nat.max_eq_right (ite_zero_le _ e2)

theorem r0_left {e1 e2 c1 c2 : Nat} (h2 : e2 ≤ c1) (h1 : e1 = 0 ∨ c2 < e1) : r0 e1 e2 c1 c2 = e1 := by
  rewrite [r0_comm]; exact r0_right h2 h1

theorem r0_same {e θ1 θ2 c1 c2 : Nat} (h1 : e ≤ c1) (h2 : e ≤ c2) :
    r0 (Ev e θ1) (Ev e θ2) c1 c2 = Ev e (max θ1 θ2) := by
  unfold r0
  rewrite [if_neg (Nat.not_lt.2 (Nat.le_trans (Ev_le e θ2) h1)), if_neg (Nat.not_lt.2 (Nat.le_trans (Ev_le e θ1) h2)),
    Nat.max_zero, Nat.max_zero]
  by_cases h : e > max θ1 θ2
  · rw [Ev_of_lt (Nat.max_lt.1 h).1, Ev_of_lt (Nat.max_lt.1 h).2, Ev_of_lt h, if_pos rfl]
  · -- one of the two witnesses is 0: if they are equal, both are
    rewrite [Ev_of_le (Nat.le_of_not_lt h)]
    rcases Nat.le_total θ1 θ2 with g | g
    · rewrite [Nat.max_eq_right g] at h; rewrite [Ev_of_le (Nat.le_of_not_lt h)]; exact ite_self 0
    · rewrite [Nat.max_eq_left g] at h; rewrite [Ev_of_le (Nat.le_of_not_lt h)]; split
      · assumption
      · rfl

/-- The entry loops of `merge`, per member and actor.  With add-closed knowledge on both sides (`f12`, `f21`: a newest
add within the other side's clock is known there, `Mx_le_of_le_clk`) either both know the same newest add, or one side's
newest add lies beyond the other's clock; the loops leave the newest add, thresholded by the removes of those who know it. -/
theorem r0_Ev {M1 M2 c1 c2 : Nat} (θ1 θ2 : Nat) (h1 : M1 ≤ c1) (h2 : M2 ≤ c2) (f12 : M2 ≤ c1 → M2 ≤ M1)
    (f21 : M1 ≤ c2 → M1 ≤ M2) :
    (M1 = M2 ∧ r0 (Ev M1 θ1) (Ev M2 θ2) c1 c2 = Ev M1 (max θ1 θ2)) ∨
    (c1 < M2 ∧ r0 (Ev M1 θ1) (Ev M2 θ2) c1 c2 = Ev M2 θ2) ∨
    (c2 < M1 ∧ r0 (Ev M1 θ1) (Ev M2 θ2) c1 c2 = Ev M1 θ1) := by
  have beyond : ∀ {e c : Nat} (t : Nat), c < e → Ev e t = 0 ∨ c < Ev e t := fun {e c} t h => by
    rcases Ev_cases e t with ⟨_, x⟩ | ⟨_, x⟩ <;> rewrite [x]
    · exact .inr h
    · exact .inl rfl
  by_cases g1 : M2 ≤ c1
  · by_cases g2 : M1 ≤ c2
    · have e : M1 = M2 := Nat.le_antisymm (f21 g2) (f12 g1)
      subst e; exact .inl ⟨rfl, r0_same h1 h2⟩
    · have g2 := Nat.lt_of_not_le g2
      exact .inr (.inr ⟨g2, r0_left (Nat.le_trans (Ev_le M2 θ2) g1) (beyond θ1 g2)⟩)
  · have g1 := Nat.lt_of_not_le g1
    have le2 : Ev M1 θ1 ≤ c2 := Nat.le_trans (Ev_le M1 θ1) (Nat.le_trans h1 (Nat.le_trans (Nat.le_of_lt g1) h2))
    exact .inr (.inl ⟨g1, r0_right le2 (beyond θ2 g1)⟩)

/-- the whole of `merge`, per member and actor.  Its two remove loops subtract some `X` from what the entry loops leave.
`X` need not be all of `max θ1 θ2`: it is enough that what it misses of either side's removes lies within that side's
clock (`g1`, `g2`), because the entry loops keep a witness subject to the other side's removes only when it is beyond
the other side's clock (`r0_Ev`). -/
theorem merge_thr {M1 M2 c1 c2 X : Nat} (θ1 θ2 : Nat) (h1 : M1 ≤ c1) (h2 : M2 ≤ c2) (f12 : M2 ≤ c1 → M2 ≤ M1)
    (f21 : M1 ≤ c2 → M1 ≤ M2) (hX : X ≤ max θ1 θ2) (g1 : θ1 ≤ max c1 X) (g2 : θ2 ≤ max c2 X) :
    Ev (r0 (Ev M1 θ1) (Ev M2 θ2) c1 c2) X = Ev (max M1 M2) (max θ1 θ2) := by
  rcases r0_Ev θ1 θ2 h1 h2 f12 f21 with ⟨e, hr⟩ | ⟨h, hr⟩ | ⟨h, hr⟩ <;> rewrite [hr, Ev_Ev]
  · rw [← e, Nat.max_self, Nat.max_eq_left hX]
  · rewrite [Nat.max_eq_right (Nat.le_of_lt (Nat.lt_of_le_of_lt h1 h)), Nat.max_comm θ1]
    exact Ev_max_eq_of_lt h (Nat.max_comm θ1 _ ▸ hX) g1
  · rewrite [Nat.max_eq_left (Nat.le_of_lt (Nat.lt_of_le_of_lt h2 h))]; exact Ev_max_eq_of_lt h hX g2

/-- `merge_thr` at `X = max θ1 θ2`: what is left when the removes of both sides are subtracted in full.  Not used by
`rep_merge` (nor is `r0_cov1` below). -/
theorem merge_core (M1 M2 θ1 θ2 c1 c2 : Nat) (h1 : M1 ≤ c1) (h2 : M2 ≤ c2) (f12 : M2 ≤ c1 → M2 ≤ M1)
    (f21 : M1 ≤ c2 → M1 ≤ M2) :
    (if r0 (Ev M1 θ1) (Ev M2 θ2) c1 c2 ≤ max θ1 θ2 then 0 else r0 (Ev M1 θ1) (Ev M2 θ2) c1 c2)
      = Ev (max M1 M2) (max θ1 θ2) :=
  (Ev_ite _ _).trans (merge_thr θ1 θ2 h1 h2 f12 f21 (Nat.le_refl _)
    (Nat.le_trans (Nat.le_max_left θ1 θ2) (Nat.le_max_right _ _)) (Nat.le_trans (Nat.le_max_right θ1 θ2) (Nat.le_max_right _ _)))

theorem r0_of_le {e1 e2 c1 c2 t : Nat} (h : e1 = 0 ∨ t < e1) (hc : r0 e1 e2 c1 c2 ≤ t) :
    r0 e1 e2 c1 c2 = if e2 > c1 then e2 else 0 := by
  rcases h with rfl | h
  · exact r0_zero_left e2 c1 c2
  · unfold r0 at hc ⊢
    have hA := Nat.le_trans (Nat.le_max_left _ _) (Nat.le_trans (Nat.le_max_left _ _) hc)
    have hC := Nat.le_trans (Nat.le_max_right _ _) hc
    have nC : ¬ e1 > c2 := fun g => by rewrite [if_pos g] at hC; exact Nat.not_le.2 h hC
    have nA : ¬ e2 = e1 := fun g => by rewrite [if_pos g, g] at hA; exact Nat.not_le.2 h hA
    rw [if_neg nC, if_neg nA, Nat.max_zero, Nat.zero_max]

/-- a positive result of the loops that one of OUR known removes covers (`≤ θ1`) is not our witness (ours exceeds `θ1`),
so it is theirs and lies beyond our clock: the remove that covers it is still pending with us.  (`h1`, `h2` are not
used.) -/
theorem r0_cov1 (M1 M2 θ1 θ2 c1 c2 : Nat) (h1 : M1 ≤ c1) (h2 : M2 ≤ c2)
    (hp : 0 < r0 (Ev M1 θ1) (Ev M2 θ2) c1 c2) (hc : r0 (Ev M1 θ1) (Ev M2 θ2) c1 c2 ≤ θ1) :
    r0 (Ev M1 θ1) (Ev M2 θ2) c1 c2 > c1 := by
  have a : Ev M1 θ1 = 0 ∨ θ1 < Ev M1 θ1 := by
    rcases Ev_cases M1 θ1 with ⟨h, x⟩ | ⟨_, x⟩ <;> rewrite [x]
    · exact .inr h
    · exact .inl rfl
  rewrite [r0_of_le a hc] at hp ⊢
  by_cases g : Ev M2 θ2 > c1
  · rewrite [if_pos g]; exact g
  · rewrite [if_neg g] at hp; exact absurd hp (Nat.lt_irrefl 0)

def mergeEntries (s o : Orswot M A) : FMap M (VClock A) :=
  o.entries.l.foldl (fun e p => mergeStep s o e p.1 p.2) (mergeKeep s o)

theorem get?_mergeKeep (s o : Orswot M A) (m : M) :
    (mergeKeep s o).get? m = (s.entries.get? m).bind (fun c =>
      if o.entries.contains m then some c else if o.clock.ge c then none else some (c.resetRemove o.clock)) :=
  FMap.get?_filterMap _ s.entries m

theorem entryGet_mergeKeep (s o : Orswot M A) (m : M) (x : A) :
    entryGet (mergeKeep s o) m x =
      if o.entries.contains m then entryGet s.entries m x
      else if entryGet s.entries m x > o.clock.get x then entryGet s.entries m x else 0 := by
  unfold entryGet
  rewrite [get?_mergeKeep]
  cases s.entries.get? m with
  | none => exact (ite_self 0).symm
  | some c =>
    rewrite [Option.bind_some]
    by_cases hc : o.entries.contains m = true
    · rw [if_pos hc, if_pos hc]
    · rewrite [if_neg hc, if_neg hc]
      by_cases hge : o.clock.ge c = true
      · rw [if_pos hge, if_neg (Nat.not_lt.2 ((VClock.ge_iff o.clock c).mp hge x))]
      · rewrite [if_neg hge]; exact VClock.get_resetRemove c o.clock x

theorem mergeStep_other (s o : Orswot M A) (e : FMap M (VClock A)) (k : M) (v : VClock A) (k' : M) (hne : k' ≠ k) :
    (mergeStep s o e k v).get? k' = e.get? k' := by
  unfold mergeStep
  cases e.get? k with
  | none => dsimp only; split <;> simp [hne]
  | some ours => dsimp only; split <;> simp [hne]

theorem entryGet_mergeStep (s o : Orswot M A) (e : FMap M (VClock A)) (m : M) (c : VClock A) (x : A) :
    entryGet (mergeStep s o e m c) m x = r0 (entryGet e m x) (c.get x) (s.clock.get x) (o.clock.get x) := by
  unfold mergeStep
  cases he : e.get? m with
  | none =>
    rewrite [entryGet_of_none he, r0_zero_left]
    dsimp only
    by_cases hge : s.clock.ge c = true
    · rw [if_pos hge, entryGet_of_none he, if_neg (Nat.not_lt.2 ((VClock.ge_iff s.clock c).mp hge x))]
    · rw [if_neg hge, entryGet_insert, if_pos rfl, VClock.get_resetRemove]
  | some ours =>
    have hcc : (((VClock.intersection c ours).merge (c.cloneWithout s.clock)).merge (ours.cloneWithout o.clock)).get x =
        r0 (ours.get x) (c.get x) (s.clock.get x) (o.clock.get x) := by
      simp only [VClock.get_merge, VClock.get_intersection, VClock.cloneWithout, VClock.get_resetRemove, r0]
    rewrite [entryGet_of_some he, ← hcc]
    dsimp only
    split
    · next hemp => rw [entryGet_erase, if_pos rfl, VClock.get_of_isEmpty hemp]
    · rw [entryGet_insert, if_pos rfl]

theorem entryGet_mergeEntries (s o : Orswot M A) (m : M) (x : A) :
    entryGet (mergeEntries s o) m x =
      r0 (entryGet s.entries m x) (entryGet o.entries m x) (s.clock.get x) (o.clock.get x) := by
  refine (FMap.foldl_obs (fun e (p : M × VClock A) => mergeStep s o e p.1 p.2) (fun e k => entryGet e k x)
    (fun e k v k' ne => by unfold entryGet; rw [mergeStep_other s o e k v k' ne])
    (fun e e' k v h => by rw [entryGet_mergeStep, entryGet_mergeStep, h]) o.entries (mergeKeep s o) m).trans ?_
  cases ho : o.entries.get? m with
  | none =>
    have hc : o.entries.contains m = false := FMap.contains_eq_false_iff.mpr ho
    simp only [entryGet_mergeKeep, hc, Bool.false_eq_true, if_false]
    rw [entryGet_of_none ho, r0_zero_right]
  | some c =>
    dsimp only
    rw [entryGet_mergeStep, entryGet_mergeKeep, if_pos (FMap.contains_of_get? ho), entryGet_of_some ho]

theorem entriesWF_mergeKeep {s : Orswot M A} (h : EntriesWF s.entries) (o : Orswot M A) : EntriesWF (mergeKeep s o) := by
  intro m mc hg
  rewrite [get?_mergeKeep] at hg
  obtain ⟨c, hm, hg⟩ := Option.bind_eq_some_iff.mp hg
  have hc := h m c hm
  by_cases h1 : o.entries.contains m = true
  · rewrite [if_pos h1] at hg; cases hg; exact hc
  · rewrite [if_neg h1] at hg
    by_cases h2 : o.clock.ge c = true
    · rewrite [if_pos h2] at hg; cases hg
    · rewrite [if_neg h2] at hg; cases hg
      exact ⟨VClock.noZero_resetRemove hc.1 _, VClock.resetRemove_nonempty_of_not_ge hc.1 h2⟩

theorem entriesWF_mergeStep (s o : Orswot M A) {e : FMap M (VClock A)} (h : EntriesWF e) (m : M) {c : VClock A}
    (hc : c.NoZero) : EntriesWF (mergeStep s o e m c) := by
  unfold mergeStep
  split
  · dsimp only
    split
    · exact entriesWF_erase h m
    · next h1 =>
      exact entriesWF_insert h m
        (VClock.noZero_merge (VClock.noZero_merge (VClock.noZero_intersection hc _) _) _) (by simpa using h1)
  · split
    · exact h
    · next h1 =>
      exact entriesWF_insert h m (VClock.noZero_resetRemove hc _) (VClock.resetRemove_nonempty_of_not_ge hc h1)

theorem entriesWF_mergeEntries {s o : Orswot M A} (h : EntriesWF s.entries) (h' : EntriesWF o.entries) :
    EntriesWF (mergeEntries s o) :=
  List.foldlRecOn o.entries.l _ (entriesWF_mergeKeep h o) fun _ h p hp =>
    entriesWF_mergeStep s o h p.1 (h' p.1 p.2 (FMap.mem_l_iff.mp hp)).1

/-- `merge` in three stages: (1) the two entry loops (`mergeEntries`); (2) THEIR deferred table is run over the result,
still under OUR clock (`s2`; src/orswot.rs:191-193); (3) the clocks are joined and the table that stage 2 left is re-run
over an empty one (`apply_deferred`) -/
theorem merge_eq (s o : Orswot M A) :
    Orswot.merge s o =
      let s2 := foldRm o.deferred.l { s with entries := mergeEntries s o }
      foldRm s2.deferred.l { clock := s2.clock.merge o.clock, entries := s2.entries, deferred := ∅ } := by
  simp only [Orswot.merge, applyDeferred, foldRm, mergeEntries]

theorem rmMembers_append (K K' : List (Op M A)) (c : VClock A) (m : M) :
    rmMembers (K ++ K') c m ↔ (rmMembers K c m ∨ rmMembers K' c m) := by
  simp only [rmMembers, List.mem_append, or_and_right, exists_or]

theorem pending_append {K K' : List (Op M A)} {c : VClock A} (h : pending (K ++ K') c) : pending K c ∧ pending K' c := by
  obtain ⟨a, ha⟩ := h; rewrite [clk_append, gt_iff_lt, Nat.max_lt] at ha; exact ⟨⟨a, ha.1⟩, ⟨a, ha.2⟩⟩

theorem rep_merge {U K K' : List (Op M A)} {s o : Orswot M A} (wf : LogWF U) (inv : Inv U K) (inv' : Inv U K')
    (h : Rep K s) (h' : Rep K' o) : Rep (K ++ K') (Orswot.merge s o) := by
  rewrite [merge_eq]
  have dnz := (stateWF_of_rep wf inv h).dwf
  have dnz' := (stateWF_of_rep wf inv' h').dwf
  -- for a context pending after the merge (so with both sides), our clock does not stop stage 2 from parking it
  have hdef : ∀ c, pending (K ++ K') c → DKey o.deferred c → defers c s.clock = true := fun c hp hk =>
    (defers_iff_pending h.clock_nz h.clock (dnz' c hk).1).mpr (pending_append hp).1
  -- stage 3 of `merge_eq` is `rep_foldRm`; its hypotheses (the bullets) read stage 2 through the views of `foldRm`
  simp only [clock_foldRm]
  refine rep_foldRm (VClock.noZero_merge h.clock_nz _)
    (fun a => by rw [VClock.get_merge, clk_append, h.clock a, h'.clock a])
    (entriesWF_foldRm _ (entriesWF_mergeEntries h.ewf h'.ewf)) ?_ ?_ ?_ ?_
  · exact fun c hk => ((dKey_run _ _ c).mp hk).elim (fun x => (dnz c x).1) fun x => (dnz' c x.2).1
  · intro c hp
    rewrite [dKey_run, and_iff_right_of_imp (hdef c hp), h.dKey, h'.dKey]
    simp only [pending_append hp, and_true, List.mem_append, exists_or]
  · intro c m hp
    rewrite [dMem_run, and_iff_right_of_imp fun x => hdef c hp x.key, h.dMem, h'.dMem, rmMembers_append]
    simp only [pending_append hp, true_and]
  · -- stages 2 and 3 are one subtraction of `X = max (dThr s.deferred) (dThr o.deferred)` (`Ev_Ev`, `max_dThr_run`); each
    -- table lies between the bounds `Rep.dThr_le`, `Rep.θ_le` (at this `X`), which is what `merge_thr` asks for
    intro m a
    rewrite [entryGet_run, Ev_Ev, max_dThr_run, entryGet_mergeEntries, h.entries, h'.entries, h.clock, h'.clock,
      E_eq_Ev, E_eq_Ev, E_eq_Ev, Mx_append, θ_append]
    exact merge_thr _ _ (Mx_le_clk K m a) (Mx_le_clk K' m a) (Mx_le_of_le_clk wf inv inv' m a)
      (Mx_le_of_le_clk wf inv' inv m a)
      (Nat.max_le.2 ⟨Nat.le_trans (h.dThr_le m a) (Nat.le_max_left _ _), Nat.le_trans (h'.dThr_le m a) (Nat.le_max_right _ _)⟩)
      (h.θ_le m a (Nat.le_max_left _ _)) (h'.θ_le m a (Nat.le_max_right _ _))

end OrswotSpec
end Crdt
