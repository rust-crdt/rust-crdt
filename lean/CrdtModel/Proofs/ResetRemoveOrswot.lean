import CrdtModel.Proofs.ResetRemove
import CrdtModel.Proofs.OrswotBasic
/-! `Orswot::reset_remove(c)` applies the partial map `VClock.rrClock c` (subtract `c`, drop what becomes empty) to every
stored clock: to the witness clock of each member (`get?_entries_resetRemove`) and to the context of each pending remove,
uniting the member sets of contexts that collide (`dKey_rr`, `dMem_rr`).  Preservation of `StateWF`
and the composition laws (C18) follow from the laws of `rrClock`. -/

namespace Crdt

namespace Orswot
variable {M A : Type} [LinOrd M] [LinOrd A]

/-- the loop of src/orswot.rs:219-226 over an arbitrary list of pending removes; it has a name for Proofs/IterOrder.lean,
which shows that the order of the list does not matter -/
def rrFold (c : VClock A) (l : List (VClock A × FSet M)) (acc : FMap (VClock A) (FSet M)) : FMap (VClock A) (FSet M) :=
  l.foldl (fun acc p =>
      let k := p.1.resetRemove c
      if k.isEmpty then acc else deferInsert acc k p.2) acc

theorem deferred_resetRemove_eq (s : Orswot M A) (c : VClock A) :
    (s.resetRemove c).deferred = rrFold c s.deferred.l ∅ := rfl

theorem dKey_rr (s : Orswot M A) (c k : VClock A) :
    DKey (s.resetRemove c).deferred k ↔ ∃ d, DKey s.deferred d ∧ VClock.rrClock c d = some k := by
  -- the loop only ever adds keys: `k` is in the result iff it was there at the start or some step adds it (`List.foldl_or`)
  refine (List.foldl_or _ (DKey · k) (fun p => VClock.rrClock c p.1 = some k) (fun acc p => ?_) s.deferred.l ∅).trans ?_
  · show DKey (if (p.1.resetRemove c).isEmpty then acc else _) k ↔ _
    unfold VClock.rrClock
    split
    · simp
    · rw [dKey_deferInsert, Option.some.injEq, or_comm, eq_comm (a := k)]
  · rewrite [or_iff_right (dKey_empty k)]
    constructor
    · rintro ⟨p, hp, e⟩; exact ⟨p.1, (dKey_iff_mem _ _).mpr ⟨p, hp, rfl⟩, e⟩
    · rintro ⟨d, hd, e⟩; obtain ⟨p, hp, rfl⟩ := (dKey_iff_mem _ _).mp hd; exact ⟨p, hp, e⟩

theorem dMem_rr (s : Orswot M A) (c k : VClock A) (m : M) :
    DMem (s.resetRemove c).deferred k m ↔ ∃ d, DMem s.deferred d m ∧ VClock.rrClock c d = some k := by
  refine (List.foldl_or _ (DMem · k m) (fun p => VClock.rrClock c p.1 = some k ∧ p.2.contains m = true)
    (fun acc p => ?_) s.deferred.l ∅).trans ?_
  · show DMem (if (p.1.resetRemove c).isEmpty then acc else _) k m ↔ _
    unfold VClock.rrClock
    split
    · simp
    · rw [dMem_deferInsert, Option.some.injEq, eq_comm (a := k)]
  · rewrite [or_iff_right (dMem_empty k m)]
    constructor
    · rintro ⟨p, hp, e, hm⟩; exact ⟨p.1, (dMem_iff_mem _ _ _).mpr ⟨p, hp, rfl, hm⟩, e⟩
    · rintro ⟨d, hd, e⟩; obtain ⟨p, hp, rfl, hm⟩ := (dMem_iff_mem _ _ _).mp hd; exact ⟨p, hp, e, hm⟩

theorem dMem_resetRemove (s : Orswot M A) (c k : VClock A) (m : M) :
    DMem (s.resetRemove c).deferred k m ↔ ∃ d, DMem s.deferred d m ∧ d.resetRemove c = k ∧ k.isEmpty = false := by
  simp only [dMem_rr, VClock.rrClock_eq_some_iff]

theorem entries_resetRemove (s : Orswot M A) (c : VClock A) :
    (s.resetRemove c).entries = s.entries.filterMap (fun _ vc => VClock.rrClock c vc) := rfl

theorem get?_entries_resetRemove (s : Orswot M A) (c : VClock A) (m : M) :
    (s.resetRemove c).entries.get? m = (s.entries.get? m).bind (VClock.rrClock c) :=
  FMap.get?_filterMap _ s.entries m

@[simp] theorem clock_resetRemove (s : Orswot M A) (c : VClock A) :
    (s.resetRemove c).clock = s.clock.resetRemove c := rfl

/-- on all states: a dropped holder and an emptied clock read the same, 0 -/
theorem entryGet_resetRemove (s : Orswot M A) (c : VClock A) (m : M) (a : A) :
    entryGet (s.resetRemove c).entries m a =
      if entryGet s.entries m a > c.get a then entryGet s.entries m a else 0 := by
  unfold entryGet
  rewrite [get?_entries_resetRemove]
  cases s.entries.get? m with
  | none => simp
  | some vc =>
    rewrite [← VClock.get_resetRemove, Option.bind_some]
    unfold VClock.rrClock
    by_cases h : (vc.resetRemove c).isEmpty = true
    · rewrite [if_pos h]; exact (VClock.get_of_isEmpty h a).symm
    · rw [if_neg h]

theorem entriesWF_resetRemove {s : Orswot M A} (h : EntriesWF s.entries) (c : VClock A) :
    EntriesWF (s.resetRemove c).entries := by
  intro m mc hg
  rewrite [get?_entries_resetRemove] at hg
  obtain ⟨vc, hm, hk⟩ := Option.bind_eq_some_iff.mp hg
  obtain ⟨rfl, hne⟩ := VClock.rrClock_some hk
  exact ⟨VClock.noZero_resetRemove (h m vc hm).1 c, hne⟩

theorem stateWF_resetRemove {s : Orswot M A} (wf : StateWF s) (c : VClock A) : StateWF (s.resetRemove c) := by
  refine ⟨VClock.noZero_resetRemove wf.clock_nz c, entriesWF_resetRemove wf.ewf c, fun k hk => ?_⟩
  obtain ⟨d, hd, e⟩ := (dKey_rr s c k).mp hk
  obtain ⟨rfl, hne⟩ := VClock.rrClock_some e
  exact ⟨VClock.noZero_resetRemove (wf.dwf d hd).1 c, hne⟩

theorem image_bind {α β γ : Type _} (P : α → Prop) (f : α → Option β) (g : β → Option γ) (k : γ) :
    (∃ d', (∃ d, P d ∧ f d = some d') ∧ g d' = some k) ↔ ∃ d, P d ∧ (f d).bind g = some k := by
  simp only [Option.bind_eq_some_iff]
  constructor
  · rintro ⟨d', ⟨d, hd, e1⟩, e2⟩; exact ⟨d, hd, d', e1, e2⟩
  · rintro ⟨d, hd, d', e1, e2⟩; exact ⟨d', ⟨d, hd, e1⟩, e2⟩

/-- `VClock.RRComp c1 c2 c3` (Proofs/ResetRemove.lean): on zero-free clocks, subtracting `c1` then `c2` is subtracting `c3`
(the join: `rrComp_merge`; the same clock twice: `rrComp_idem`).  `rrClock_comp` lifts it to `rrClock`, which
`reset_remove` runs on each stored clock of the three fields. -/
theorem resetRemove_comp {c1 c2 c3 : VClock A} (h : VClock.RRComp c1 c2 c3) {s : Orswot M A} (wf : StateWF s) :
    (s.resetRemove c1).resetRemove c2 = s.resetRemove c3 := by
  apply ext
  · exact h s.clock wf.clock_nz
  · apply FMap.ext
    intro m
    simp only [get?_entries_resetRemove, Option.bind_assoc]
    exact Option.bind_congr fun vc hm => VClock.rrClock_comp h (wf.ewf m vc hm).1
  · apply deferred_ext
    · intro k
      simp only [dKey_rr, image_bind]
      exact exists_congr fun d => and_congr_right fun hd => by rw [VClock.rrClock_comp h (wf.dwf d hd).1]
    · intro k m
      simp only [dMem_rr, image_bind]
      exact exists_congr fun d => and_congr_right fun hd => by rw [VClock.rrClock_comp h (wf.dwf d hd.key).1]

theorem resetRemove_comm (s : Orswot M A) (c1 c2 : VClock A) :
    (s.resetRemove c1).resetRemove c2 = (s.resetRemove c2).resetRemove c1 := by
  have hc := VClock.rrClock_comm c1 c2
  apply ext
  · exact VClock.resetRemove_comm s.clock c1 c2
  · apply FMap.ext
    intro m
    simp only [get?_entries_resetRemove, Option.bind_assoc, hc]
  · apply deferred_ext
    · intro k
      simp only [dKey_rr, image_bind, hc]
    · intro k m
      simp only [dMem_rr, image_bind, hc]

theorem resetRemove_init (c : VClock A) : (init : Orswot M A).resetRemove c = init :=
  Orswot.ext (VClock.empty_resetRemove c) rfl rfl

theorem resetRemove_empty {s : Orswot M A} (wf : StateWF s) : s.resetRemove ∅ = s := by
  -- no stored clock is empty (`StateWF`), so `rrClock ∅` gives each back as it is (`rrClock_empty`); an empty one it would drop
  apply ext
  · rfl
  · apply FMap.ext
    intro m
    rewrite [get?_entries_resetRemove]
    cases hm : s.entries.get? m with
    | none => rfl
    | some vc => exact VClock.rrClock_empty (wf.ewf m vc hm).2
  · apply deferred_ext
    · intro k
      rewrite [dKey_rr]
      constructor
      · rintro ⟨d, hd, e⟩
        rewrite [VClock.rrClock_empty (wf.dwf d hd).2] at e
        cases e; exact hd
      · intro hk; exact ⟨k, hk, VClock.rrClock_empty (wf.dwf k hk).2⟩
    · intro k m
      rewrite [dMem_rr]
      constructor
      · rintro ⟨d, hd, e⟩
        rewrite [VClock.rrClock_empty (wf.dwf d hd.key).2] at e
        cases e; exact hd
      · intro hk; exact ⟨k, hk, VClock.rrClock_empty (wf.dwf k hk.key).2⟩

theorem entries_resetRemove_of_covers {s : Orswot M A} (wf : EntriesWF s.entries) {c : VClock A}
    (he : ∀ m a, entryGet s.entries m a ≤ c.get a) : (s.resetRemove c).entries = ∅ := by
  apply entries_ext (entriesWF_resetRemove wf c) entriesWF_empty
  intro m a
  rw [entryGet_resetRemove, if_neg (Nat.not_lt.mpr (he m a)), entryGet_empty]

theorem resetRemove_of_covers {s : Orswot M A} (wf : StateWF s) {c : VClock A} (hc : s.clock.le c)
    (he : ∀ m a, entryGet s.entries m a ≤ c.get a) (hd : ∀ k, DKey s.deferred k → k.le c) :
    s.resetRemove c = init := by
  apply ext
  · exact VClock.resetRemove_of_le wf.clock_nz hc
  · exact entries_resetRemove_of_covers wf.ewf he
  · refine FMap.ext fun k => Option.not_isSome_iff_eq_none.mp fun hk => ?_
    obtain ⟨d, hk, e⟩ := (dKey_rr s c k).mp hk
    rewrite [(VClock.rrClock_eq_none_iff (wf.dwf d hk).1 c).mpr (hd d hk)] at e
    cases e

end Orswot
end Crdt
