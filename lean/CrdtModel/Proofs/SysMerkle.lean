import CrdtModel.Spec.SysMerkle
import CrdtModel.Proofs.SysDots
import CrdtModel.Props.C15
/-!
# The system invariant of `MerkleReg`

Every replica / saved state of every run is `merkleSys.Reach`-derivable over the log, with NO hypothesis at all: `Reach` is
monotone in the universe (there is no delivery discipline to re-check), so derivations survive the growth of the log.
The log of a run is `ChildrenFirst` as soon as it has no hash collision (`InjOn hash c.log` – the only assumption, needed
because a replica finds the heads it lists through `hash`); hence closure, well-foundedness of the child relation, a maximal
node, and: a node is visible to whoever has received all its ancestors.
-/
namespace Crdt.SysMerkle
open RepSys MerkleSpec Crdt.Sys
variable {H : Type} [LinOrd H] {τ A : Type} [LinOrd A] {hash : Node H τ → H} {c : Cfg H τ A}

theorem reach_mono {U U' K : List (Node H τ)} {s : MerkleReg H τ} (sub : ∀ n, n ∈ U → n ∈ U')
    (h : (merkleSys hash).Reach U s K) : (merkleSys hash).Reach U' s K := by
  induction h with
  | init => exact Reach.init
  | apply _ hu _ ih => exact Reach.apply ih (sub _ hu) trivial
  | merge _ _ ih1 ih2 => exact Reach.merge ih1 ih2

theorem step_log {c' : Cfg H τ A} (st : Step hash c c') : (∃ i v, c'.log = c.written i v :: c.log) ∨ c'.log = c.log := by
  cases st with
  | write i v => exact Or.inl ⟨i, v, rfl⟩
  | _ => exact Or.inr rfl

theorem step_log_sub {c' : Cfg H τ A} (st : Step hash c c') : ∀ n, n ∈ c.log → n ∈ c'.log := by
  rcases step_log st with ⟨_, _, e⟩ | e <;> rewrite [e]
  · exact fun _ => List.mem_cons_of_mem _
  · exact fun _ h => h

theorem steps_log_sub {c c' : Cfg H τ A} (st : Steps hash c c') : ∀ n, n ∈ c.log → n ∈ c'.log := by
  induction st with
  | refl => exact fun _ h => h
  | step _ s ih => exact fun n hn => step_log_sub s n (ih n hn)

theorem injOn_of_steps {c c' : Cfg H τ A} (st : Steps hash c c') (inj : InjOn hash c'.log) : InjOn hash c.log :=
  inj.mono (steps_log_sub st)

/-- every replica state and every saved state is derivable over the log with its knowledge (`Sys.Held`: `Proofs/SysDots.lean`) -/
abbrev SysInv (hash : Node H τ → H) (c : Cfg H τ A) : Prop :=
  Held ((merkleSys hash).Reach c.log) c.rep c.know c.snaps

theorem SysInv.view (inv : SysInv hash c) {s : MerkleReg H τ} {K : List (Node H τ)} (v : c.View s K) :
    (merkleSys hash).Reach c.log s K := by
  cases v with
  | rep i => exact inv.reach i
  | snap hp => exact inv.snaps _ hp

theorem sysInv_run (r : Run hash c) : SysInv hash c := by
  induction r with
  | init => exact Held.init Reach.init
  | @step c _ _ st inv =>
    cases st with
    | write i v =>
      have inv' := inv.mono fun _ _ => reach_mono (U' := c.written i v :: c.log) fun _ => List.mem_cons_of_mem _
      exact inv'.upd (Reach.apply (inv'.reach i) List.mem_cons_self trivial)
    | deliver i nd hu => exact inv.upd (Reach.apply (inv.reach i) hu trivial)
    | merge i j => exact inv.upd (Reach.merge (inv.reach i) (inv.reach j))
    | snapshot i => exact inv.snapshot i
    | mergeSnap i n p hp => exact inv.upd (Reach.merge (inv.reach i) (inv.snaps p (List.mem_of_getElem? hp)))

theorem Run.steps {c' : Cfg H τ A} (r : Run hash c) (st : Steps hash c c') : Run hash c' := by
  induction st with
  | refl => exact r
  | step _ s ih => exact ih.step s

namespace ChildrenFirst
variable {l : List (Node H τ)}

theorem closed_tail (cf : ChildrenFirst hash l) :
    ∀ n, n ∈ l → ∀ x, n.children.contains x = true → ∃ m, m ∈ l.tail ∧ hash m = x := by
  induction cf with
  | nil => exact List.forall_mem_nil _
  | cons _ hx ih =>
    intro n hn x hc
    rcases List.mem_cons.mp hn with e | hn
    · exact hx x (e ▸ hc)
    · obtain ⟨m, hm, e⟩ := ih n hn x hc
      exact ⟨m, List.mem_of_mem_tail hm, e⟩

theorem closed (cf : ChildrenFirst hash l) : ∀ n, n ∈ l → ∀ x, n.children.contains x = true → ∃ m, m ∈ l ∧ hash m = x :=
  fun n hn x hc => (cf.closed_tail n hn x hc).imp fun _ h => ⟨List.mem_of_mem_tail h.1, h.2⟩

/-- in a collision-free log a hash names one node, so every child is itself older than the newest node -/
theorem child_mem_tail (cf : ChildrenFirst hash l) (inj : InjOn hash l) {m n : Node H τ} (ch : Child hash l m n) :
    m ∈ l.tail := by
  obtain ⟨m', hm', e⟩ := cf.closed_tail n ch.2.1 _ ch.2.2
  exact inj m' (List.mem_of_mem_tail hm') m ch.1 e ▸ hm'

theorem acc (cf : ChildrenFirst hash l) (inj : InjOn hash l) : ∀ n, Acc (Child hash l) n := by
  induction cf with
  | nil => exact fun n => ⟨n, fun m hm => nomatch hm.1⟩
  | @cons x t cf' hx ih =>
    have tl : ∀ {m n}, Child hash (x :: t) m n → m ∈ t := (cf'.cons hx).child_mem_tail inj
    -- a node of the tail has the same children in both logs
    have lift : ∀ n, n ∈ t → Acc (Child hash (x :: t)) n := by
      intro n hn
      have a := ih inj.tail n
      induction a with
      | intro n _ ih2 => exact ⟨n, fun m hm => ih2 m ⟨tl hm, hn, hm.2.2⟩ (tl hm)⟩
    exact fun n => ⟨n, fun m hm => lift m (tl hm)⟩

/-- used with `S := Visible (c.know i)`: `run_written_fresh` -/
theorem exists_max (cf : ChildrenFirst hash l) (inj : InjOn hash l) (S : Node H τ → Prop) :
    (∃ n, n ∈ l ∧ S n) → ∃ m, m ∈ l ∧ S m ∧ ∀ p, p ∈ l → S p → p.children.contains (hash m) = false := by
  induction cf with
  | nil => nofun
  | @cons x t cf' hx ih =>
    rintro ⟨n, hn, sn⟩
    by_cases h1 : S x ∧ x ∉ t
    · -- the newest node is maximal unless it is also older: whoever lists it has it in the tail
      exact ⟨x, List.mem_cons_self, h1.1, fun p hp _ => Bool.eq_false_iff.mpr fun hc =>
        h1.2 ((cf'.cons hx).child_mem_tail inj ⟨List.mem_cons_self, hp, hc⟩)⟩
    · -- otherwise the part lies in the tail, and a maximal node of it there is maximal here
      have int : ∀ p, p ∈ x :: t → S p → p ∈ t := fun p hp sp =>
        (List.mem_cons.mp hp).elim (fun e => Classical.byContradiction fun nx => h1 ⟨e ▸ sp, e ▸ nx⟩) id
      obtain ⟨m, hm, sm, mx⟩ := ih inj.tail ⟨n, int n hn sn, sn⟩
      exact ⟨m, List.mem_cons_of_mem _ hm, sm, fun p hp sp => mx p (int p hp sp) sp⟩

end ChildrenFirst

theorem childrenFirst_run (r : Run hash c) (inj : InjOn hash c.log) : ChildrenFirst hash c.log := by
  induction r with
  | init => exact ChildrenFirst.nil
  | step r' st ih =>
    have inj' := inj.mono (step_log_sub st)
    rcases step_log st with ⟨i, v, e⟩ | e <;> rewrite [e]
    · -- `write` lists the heads its replica reads, and what a replica has received comes from the log
      refine (ih inj').cons fun x hc => ?_
      obtain ⟨m, e, hm⟩ := (C15.hashes_read_contains inj' ((sysInv_run r').reach i) x).mp hc
      exact ⟨m, RepSys.reach_sub ((sysInv_run r').reach i) m hm.1.1, e⟩
    · exact ih inj'

theorem Anc.mem_log {l : List (Node H τ)} {m n : Node H τ} (a : Anc hash l m n) (hn : n ∈ l) : m ∈ l := by
  cases a with
  | refl => exact hn
  | step ch _ => exact ch.1

theorem Anc.trans {l : List (Node H τ)} {m k n : Node H τ} (a : Anc hash l m k) (b : Anc hash l k n) : Anc hash l m n := by
  induction a with
  | refl => exact b
  | step ch _ ih => exact Anc.step ch (ih b)

theorem visible_of_ancestors {l K : List (Node H τ)} (cf : ChildrenFirst hash l) (inj : InjOn hash l) {n : Node H τ}
    (hl : n ∈ l) (hanc : ∀ m, Anc hash l m n → m ∈ K) : Visible hash K n := by
  have a := cf.acc inj n
  induction a with
  | intro n _ ih =>
    refine MerkleSpec.visible_closed hash (hanc n (Anc.refl n)) (fun x hc => ?_)
    obtain ⟨m, hm, e⟩ := cf.closed n hl x hc
    have ch : Child hash l m n := ⟨hm, hl, e ▸ hc⟩
    exact ⟨m, ih m ch hm (fun k ak => hanc k (ak.trans (Anc.step ch (Anc.refl n)))), e⟩

theorem ancestors_of_visible {l K : List (Node H τ)} (inj : InjOn hash l) (sub : ∀ n, n ∈ K → n ∈ l) {m n : Node H τ}
    (a : Anc hash l m n) (v : Visible hash K n) : Visible hash K m := by
  induction a with
  | refl => exact v
  | @step m k n ch _ ih =>
    have vk := ih v
    obtain ⟨m', vm', e⟩ := (visH_iff hash).mp (vk.2 _ ch.2.2)
    exact inj m' (sub m' vm'.1) m ch.1 e ▸ vm'

end Crdt.SysMerkle
