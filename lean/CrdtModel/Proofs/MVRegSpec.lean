import CrdtModel.Spec.MVReg
/-! The executable specification functions of `Spec/MVRegSpec.lean` (what the driver prints) compute the
declarative notions of `Spec/MVReg.lean` (what the theorems are about). -/
namespace Crdt
namespace MVSpec
variable {ν α : Type} [LinOrd α]

theorem sltB_iff (a b : VClock α) : sltB a b = true ↔ a.slt b := by
  unfold sltB VClock.slt
  rw [Bool.and_eq_true, VClock.ge_iff, Bool.not_eq_true', ← Bool.not_eq_true, VClock.ge_iff]

theorem dominatedB_iff (K : List (MVOp ν α)) (c : VClock α) : dominatedB K c = true ↔ Dominated K c := by
  simp only [dominatedB, Dominated, List.any_eq_true, sltB_iff]

theorem isMaxB_iff {K : List (MVOp ν α)} {o : MVOp ν α} (ho : o ∈ K) :
    isMaxB K o = true ↔ Maximal K o.clock o.val := by
  unfold isMaxB Maximal
  have ho' : (⟨o.clock, o.val⟩ : MVOp ν α) ∈ K := ho
  rewrite [← dominatedB_iff]
  simp [ho']

theorem mem_dedup {β : Type} [DecidableEq β] (l : List β) (x : β) : x ∈ dedup l ↔ x ∈ l := by
  induction l with
  | nil => simp [dedup]
  | cons y t ih =>
    simp only [dedup]
    split
    · next h => rewrite [ih, List.mem_cons]; exact ⟨Or.inr, fun h' => h'.elim (· ▸ h) id⟩
    · rw [List.mem_cons, List.mem_cons, ih]

theorem nodup_dedup {β : Type} [DecidableEq β] (l : List β) : (dedup l).Nodup := by
  induction l with
  | nil => simp [dedup]
  | cons y t ih =>
    simp only [dedup]
    split
    · exact ih
    · next h => exact List.nodup_cons.mpr ⟨fun h' => h ((mem_dedup t y).mp h'), ih⟩

section dec
variable [DecidableEq ν]

theorem mem_maxPuts (K : List (MVOp ν α)) (c : VClock α) (v : ν) : (c, v) ∈ maxPuts K ↔ Maximal K c v := by
  unfold maxPuts
  rewrite [mem_dedup, List.mem_map]
  constructor
  · rintro ⟨o, ho, ⟨⟩⟩
    exact (isMaxB_iff (List.mem_filter.mp ho).1).mp (List.mem_filter.mp ho).2
  · exact fun h => ⟨⟨c, v⟩, List.mem_filter.mpr ⟨h.1, (isMaxB_iff h.1).mpr h⟩, rfl⟩

theorem nodup_maxPuts (K : List (MVOp ν α)) : (maxPuts K).Nodup := nodup_dedup _

theorem wfB_iff (K : List (MVOp ν α)) : wfB K = true ↔ MVWF K := by
  simp only [wfB, MVWF, Bool.and_eq_true, List.all_eq_true, VClockSpec.noZero_iff, Bool.or_eq_true, bne_iff_ne, beq_iff_eq,
    ne_eq, ← Decidable.imp_iff_not_or]

end dec

theorem get_readClock (K : List (MVOp ν α)) (x : α) :
    (readClock K).get x = listMax (fun o => o.clock.get x) K := by
  unfold readClock
  apply VClockSpec.get_ofFun
  intro hz
  obtain ⟨o, ho, e⟩ := listMax_attained _ K (Nat.pos_of_ne_zero hz)
  -- the put that attains the non-zero maximum stores a counter for `x`
  exact List.mem_flatMap.mpr ⟨o, ho, List.mem_map.mpr
    ⟨(x, _), FMap.mem_l_iff.mpr (VClock.get?_of_get_ne_zero (e ▸ hz)), rfl⟩⟩

theorem noZero_readClock (K : List (MVOp ν α)) : (readClock K).NoZero := VClockSpec.noZero_ofFun _ _

end MVSpec
end Crdt
