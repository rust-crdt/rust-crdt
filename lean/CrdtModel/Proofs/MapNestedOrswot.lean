import CrdtModel.Proofs.MapNested
import CrdtModel.Proofs.ResetRemoveOrswot
set_option linter.unusedSectionVars false -- a few lemmas do not use the `[LinOrd _]` binders they get from the `variable` lines
/-! The nested `Orswot` values of a `Map<K, Orswot<M,A>, A>` under **causal, op-only delivery** (`ReachC`, key removes
included), for `Props/C05NestedOrswot.lean`.  The nested READS (witnesses per member and actor) are exactly the
observed-remove specification `E2`; the nested STATES may carry residue in the nested `deferred` table / nested clock.
The proof is one invariant per key (`nested_inv`): the nested value under `k` stands in `Orswot.NRep` to the specification
functions `M2 L k`, `θ2 L k`; section 2 says what each nested operation does to `NRep` for ABSTRACT specification functions,
section 4 what a key remove does to the nested value under one key (an update: `nestedVal_apply_up`, Proofs/MapNested). -/
namespace Crdt

namespace CMap
variable {K M A : Type} [LinOrd K] [LinOrd M] [LinOrd A]

/-- ops of `Map<K, Orswot<M,A>, A>` -/
abbrev NOp (K M A : Type) [LinOrd A] := MapOp K (OrswotOp M A) A

/-! ### 1. specification functions -/

/-- counter of a nested add of member `m` under key `k` by actor `a` (the dot of the Map op), 0 otherwise -/
def addCtr2 (k : K) (m : M) (a : A) : NOp K M A → Nat
  | .up d k' (.add _ ms) => if k' = k ∧ d.actor = a ∧ m ∈ ms then d.counter else 0
  | .up _ _ (.rm _ _) => 0
  | .rm _ _ => 0

/-- what a remove covers of actor `a` for member `m` under key `k`: a nested remove of `m` under `k`, or a key remove of `k` -/
def rmCtr2 (k : K) (m : M) (a : A) : NOp K M A → Nat
  | .up _ _ (.add _ _) => 0
  | .up _ k' (.rm c' ms) => if k' = k ∧ m ∈ ms then c'.get a else 0
  | .rm c ks => if k ∈ ks then c.get a else 0

/-- newest known nested add of `m` under `k` by `a` -/
def M2 (L : List (NOp K M A)) (k : K) (m : M) (a : A) : Nat := listMax (addCtr2 k m a) L
/-- how far the known nested removes of `m` under `k` and the known key removes of `k` cover actor `a` -/
def θ2 (L : List (NOp K M A)) (k : K) (m : M) (a : A) : Nat := listMax (rmCtr2 k m a) L
/-- surviving witness of `m` under `k` by `a`: `OrswotSpec.Ev (M2 L k m a) (θ2 L k m a)`, by `rfl` (`Ev M θ` = `M` if `M > θ`, else 0);
`NRep.wit` below is stated with `Ev`, the Props statements with `E2` -/
def E2 (L : List (NOp K M A)) (k : K) (m : M) (a : A) : Nat := if M2 L k m a > θ2 L k m a then M2 L k m a else 0

@[simp] theorem M2_nil (k : K) (m : M) (a : A) : M2 ([] : List (NOp K M A)) k m a = 0 := rfl
@[simp] theorem θ2_nil (k : K) (m : M) (a : A) : θ2 ([] : List (NOp K M A)) k m a = 0 := rfl
theorem M2_cons (o : NOp K M A) (L : List (NOp K M A)) (k : K) (m : M) (a : A) :
    M2 (o :: L) k m a = max (addCtr2 k m a o) (M2 L k m a) := rfl
theorem θ2_cons (o : NOp K M A) (L : List (NOp K M A)) (k : K) (m : M) (a : A) :
    θ2 (o :: L) k m a = max (rmCtr2 k m a o) (θ2 L k m a) := rfl

theorem E2_congr {L L' : List (NOp K M A)} (e : ∀ o, o ∈ L ↔ o ∈ L') (k : K) (m : M) (a : A) : E2 L k m a = E2 L' k m a := by
  unfold E2 M2 θ2; rw [listMax_congr _ e, listMax_congr _ e]

variable {L : List (NOp K M A)}

theorem lt_M2_iff {k : K} {m : M} {a : A} {n : Nat} : n < M2 L k m a ↔
    ∃ d d' ms, MapOp.up d k (OrswotOp.add d' ms) ∈ L ∧ d.actor = a ∧ m ∈ ms ∧ n < d.counter := by
  refine (lt_listMax_iff _ L n).trans ⟨?_, ?_⟩
  · rintro ⟨x, hx, hlt⟩
    cases x with
    | rm c ks => exact absurd hlt (Nat.not_lt_zero n)
    | up d k' o =>
      cases o with
      | rm c' ms => exact absurd hlt (Nat.not_lt_zero n)
      | add d' ms =>
        by_cases hc : k' = k ∧ d.actor = a ∧ m ∈ ms
        · obtain ⟨rfl, ha, hm⟩ := hc
          exact ⟨d, d', ms, hx, ha, hm, Nat.lt_of_lt_of_eq hlt (if_pos ⟨rfl, ha, hm⟩)⟩
        · exact absurd (Nat.lt_of_lt_of_eq hlt (if_neg hc)) (Nat.not_lt_zero n)
  · rintro ⟨d, d', ms, hin, ha, hm, hlt⟩
    exact ⟨_, hin, Nat.lt_of_lt_of_eq hlt (if_pos ⟨rfl, ha, hm⟩).symm⟩

theorem θ2_lt_iff {k : K} {m : M} {a : A} {n : Nat} (hn : 0 < n) : θ2 L k m a < n ↔
    (∀ d c' ms, MapOp.up d k (OrswotOp.rm c' ms) ∈ L → m ∈ ms → c'.get a < n) ∧
    (∀ c ks, (MapOp.rm c ks : NOp K M A) ∈ L → k ∈ ks → c.get a < n) := by
  refine (listMax_lt_iff _ L hn).trans
    ⟨fun h => ⟨fun d c' ms hin hm => ?_, fun c ks hin hk => ?_⟩, fun h x hx => ?_⟩
  · exact lt_of_eq_of_lt (if_pos ⟨rfl, hm⟩).symm (h (.up d k (.rm c' ms)) hin)
  · exact lt_of_eq_of_lt (if_pos hk).symm (h (.rm c ks) hin)
  · cases x with
    | rm c ks =>
      show (if k ∈ ks then c.get a else 0) < n
      split
      · next hk => exact h.2 c ks hx hk
      · exact hn
    | up d k' o =>
      cases o with
      | add d' ms => exact hn
      | rm c' ms =>
        show (if k' = k ∧ m ∈ ms then c'.get a else 0) < n
        split
        · next hc => obtain ⟨rfl, hm⟩ := hc; exact h.1 d c' ms hx hm
        · exact hn

theorem addCtr2_le_addCtrOf (k : K) (m : M) (a : A) (o : NOp K M A) : addCtr2 k m a o ≤ OrswotSpec.addCtrOf k a (keyOp o) := by
  cases o with
  | rm c ks => exact Nat.le_refl 0
  | up d k' o =>
    cases o with
    | rm c' ms => exact Nat.zero_le _
    | add d' ms =>
      simp only [addCtr2]
      split
      · next hc => exact Nat.le_of_eq (if_pos ⟨hc.2.1, List.mem_singleton.mpr hc.1.symm⟩).symm
      · exact Nat.zero_le _

theorem rmCtr_le_rmCtr2 (k : K) (m : M) (a : A) (o : NOp K M A) : OrswotSpec.rmCtr k a (keyOp o) ≤ rmCtr2 k m a o := by
  cases o with
  | rm c ks => exact Nat.le_refl _
  | up d k' o => exact Nat.zero_le _

theorem M2_le_Mx (L : List (NOp K M A)) (k : K) (m : M) (a : A) : M2 L k m a ≤ OrswotSpec.Mx (keyLog L) k a := by
  unfold M2 OrswotSpec.Mx keyLog
  rewrite [listMax_map]
  exact listMax_le_listMax L (addCtr2_le_addCtrOf k m a)

theorem θ_le_θ2 (L : List (NOp K M A)) (k : K) (m : M) (a : A) : OrswotSpec.θ (keyLog L) k a ≤ θ2 L k m a := by
  unfold θ2 OrswotSpec.θ keyLog
  rewrite [listMax_map]
  exact listMax_le_listMax L (rmCtr_le_rmCtr2 k m a)

/-- **a surviving nested witness is a surviving key witness** (the entry clock of `k` dominates the nested witnesses) -/
theorem E2_le_E (L : List (NOp K M A)) (k : K) (m : M) (a : A) : E2 L k m a ≤ OrswotSpec.E (keyLog L) k a :=
  OrswotSpec.Ev_mono (M2_le_Mx L k m a) (θ_le_θ2 L k m a)

end CMap

/-! ### 2. one nested `Orswot`, abstract specification -/

namespace Orswot
open OrswotSpec
variable {M A : Type} [LinOrd M] [LinOrd A]

/-- `NRep Mf θf B v`: the nested value `v` has, for every member and actor, the witness "newest add `Mf` unless covered by
`θf`"; its clock is below the bound `B` (the Map clock); every remove parked in its `deferred` table is accounted for in `θf`.
`clk_le`: a dot that is fresh for the Map (above `B`) must also pass the nested dedup gate (`nrep_add`).  `def_le`: a nested add
re-runs the parked removes, which must then change nothing (`nrep_foldRm`).  `B` is a function, not a clock: it is instantiated
with `s.clock.get`. -/
structure NRep (Mf θf : M → A → Nat) (B : A → Nat) (v : Orswot M A) : Prop where
  wit : ∀ m a, entryGet v.entries m a = Ev (Mf m a) (θf m a)
  clk_le : ∀ a, v.clock.get a ≤ B a
  def_le : ∀ c m, DMem v.deferred c m → ∀ a, c.get a ≤ θf m a
  ewf : EntriesWF v.entries

variable {Mf θf Mf' θf' : M → A → Nat} {B B' : A → Nat} {v : Orswot M A}

theorem nrep_init (h : ∀ m a, Mf m a ≤ θf m a) : NRep Mf θf B (init : Orswot M A) :=
  ⟨fun m a => (Ev_of_le (h m a)).symm, fun _ => Nat.zero_le _, fun c m hd => absurd hd (dMem_empty c m), entriesWF_empty⟩

/-- the identity step: the specification functions stay, the bound may grow -/
theorem nrep_skip (h : NRep Mf θf B v) (hM : ∀ m a, Mf' m a = Mf m a) (hθ : ∀ m a, θf' m a = θf m a)
    (hB : ∀ a, B a ≤ B' a) : NRep Mf' θf' B' v := by
  refine ⟨fun m a => ?_, fun a => Nat.le_trans (h.clk_le a) (hB a), fun c m hd a => ?_, h.ewf⟩
  · rewrite [hM, hθ]; exact h.wit m a
  · rewrite [hθ]; exact h.def_le c m hd a

/-- a nested remove, any context (`Orswot.apply v (.rm c ms)` is `applyRm v (setOfList ms) c`) -/
theorem nrep_rm (h : NRep Mf θf B v) (c : VClock A) (S : FSet M)
    (hθ : ∀ m a, θf' m a = max (if S.contains m then c.get a else 0) (θf m a)) (hB : ∀ a, B a ≤ B' a) :
    NRep Mf θf' B' (applyRm v S c) := by
  refine ⟨fun m a => ?_, fun a => Nat.le_trans (h.clk_le a) (hB a), fun c' m hd a => ?_, entriesWF_applyRm h.ewf _ _⟩
  · rewrite [hθ, Nat.max_comm, ← Ev_Ev, ← h.wit]
    exact entryGet_applyRm_Ev v S c m a
  · -- a parked remove is an old one or this one
    rewrite [hθ]
    rcases (dMem_applyRm v S c c' m).mp hd with h0 | ⟨_, rfl, hm⟩
    · exact Nat.le_trans (h.def_le c' m h0 a) (Nat.le_max_right _ _)
    · rewrite [if_pos hm]; exact Nat.le_max_left _ _

/-- a key remove reaching the nested value (`Orswot::reset_remove`) -/
theorem nrep_reset (h : NRep Mf θf B v) (c : VClock A)
    (hθ : ∀ m a, θf' m a = max (c.get a) (θf m a)) : NRep Mf θf' B (v.resetRemove c) := by
  refine ⟨fun m a => ?_, fun a => ?_, fun c' m hd a => ?_, entriesWF_resetRemove h.ewf c⟩
  · rewrite [hθ, Nat.max_comm, ← Ev_Ev, ← h.wit]; exact entryGet_resetRemove v c m a
  · rewrite [clock_resetRemove]
    exact Nat.le_trans (VClock.resetRemove_le _ c a) (h.clk_le a)
  · obtain ⟨d0, h0, e, _⟩ := (dMem_resetRemove v c c' m).mp hd
    have := h.def_le d0 m h0 a
    rewrite [← e, hθ]
    exact Nat.le_trans (VClock.resetRemove_le d0 c a) (Nat.le_trans this (Nat.le_max_right _ _))

/-- re-running removes that `θf` accounts for (`apply_deferred`) changes nothing in the specification -/
theorem nrep_foldRm (h : NRep Mf θf B v) {l : List (VClock A × FSet M)}
    (hl : ∀ p ∈ l, ∀ m, p.2.contains m = true → ∀ a, p.1.get a ≤ θf m a) : NRep Mf θf B (foldRm l v) := by
  induction l generalizing v with
  | nil => exact h
  | cons p t ih =>
    obtain ⟨hp, ht⟩ := List.forall_mem_cons.mp hl
    refine ih (nrep_rm h p.1 p.2 (fun m a => ?_) fun a => Nat.le_refl _) ht
    split
    · next hm => exact (Nat.max_eq_right (hp m hm a)).symm
    · exact (Nat.zero_max _).symm

/-- **a fresh nested add** (its dot is above the bound `B`, hence above the nested clock and above every known remove): the
named members get the new witness, then the parked removes are re-run.  `hθB`: known removes stay below the Map clock
(`ReachC.θ2_le_clk`); `hBd`: the new bound – the Map clock after the update – covers the dot. -/
theorem nrep_add (h : NRep Mf θf B v) (d : Dot A) (ms : List M)
    (hθB : ∀ m a, θf m a ≤ B a) (hfresh : B d.actor < d.counter)
    (hM : ∀ m a, Mf' m a = max (if d.actor = a ∧ m ∈ ms then d.counter else 0) (Mf m a))
    (hB : ∀ a, B a ≤ B' a) (hBd : d.counter ≤ B' d.actor) :
    NRep Mf' θf B' (Orswot.apply v (.add d ms)) := by
  rewrite [apply_add_of_fresh (Nat.not_le.mpr (Nat.lt_of_le_of_lt (h.clk_le _) hfresh)) ms]
  refine nrep_foldRm ⟨fun m x => ?_, fun a => ?_, fun c m hd => absurd hd (dMem_empty c m),
    OrswotSpec.entriesWF_insertAll (Nat.zero_lt_of_lt hfresh) ms h.ewf⟩
    fun p hp m hm => h.def_le p.1 m ⟨p.2, FMap.mem_l_iff.mp hp, hm⟩
  · show entryGet (OrswotSpec.insertAll d ms v.entries) m x = _
    rewrite [OrswotSpec.entryGet_insertAll_max, h.wit, hM, Ev_max, OrswotSpec.addCtrOf]
    split
    · next hA => cases hA.1; rw [Ev_of_lt (Nat.lt_of_le_of_lt (hθB m _) hfresh)]
    · rw [Ev_of_le (Nat.zero_le _)]
  · show (v.clock.apply d).get a ≤ B' a
    rewrite [VClock.get_apply]
    split
    · next e => exact Nat.max_le.mpr ⟨Nat.le_trans (h.clk_le a) (hB a), e ▸ hBd⟩
    · exact Nat.le_trans (h.clk_le a) (hB a)

theorem NRep.present_iff (h : NRep Mf θf B v) (m : M) : (v.entries.get? m).isSome = true ↔ ∃ a, Mf m a > θf m a :=
  (present_iff_entryGet h.ewf m).trans (exists_congr fun a => by rewrite [h.wit]; exact Ev_pos)

end Orswot

/-! ### 3. causal, op-only delivery -/
namespace CMap
variable {K M A : Type} [LinOrd K] [LinOrd M] [LinOrd A]

/-- **the causal premise on contexts**: the context of a key remove / of a nested remove is dominated by what the receiving
replica has applied (`clk (keyLog L) a` = newest update of `a` applied; it equals `s.clock.get a`, `ReachC.clock`).
It is a premise of the execution model (`ReachC.apply`, `SysMap.StepC.deliver`), not derived from an order on deliveries: what is
proved is that an op satisfies it at its origin when generated (`SysMap.ctxOk_update`, `ctxOk_rmKey`, `ctxOk_rmKeyRead`).  Why it
stands for causal delivery: a context is a clock read off the author's state, so it only contains dots the author had applied, and
under causal delivery the receiver has applied all of those before the op that carries the context.  A nested add needs no premise:
its dot is the dot of the Map op (`NLogWF.same_dot`), which the dedup gate and `Ok` make fresh (`hfresh` of `nrep_add`). -/
def CtxOk (L : List (NOp K M A)) : NOp K M A → Prop
  | .rm c _ => ∀ a, c.get a ≤ OrswotSpec.clk (keyLog L) a
  | .up _ _ (.rm c' _) => ∀ a, c'.get a ≤ OrswotSpec.clk (keyLog L) a
  | .up _ _ (.add _ _) => True

theorem ctxOk_rm (L : List (NOp K M A)) (c : VClock A) (ks : List K) :
    CtxOk L (.rm c ks) ↔ ∀ a, c.get a ≤ OrswotSpec.clk (keyLog L) a := Iff.rfl
theorem ctxOk_up_rm (L : List (NOp K M A)) (d : Dot A) (k : K) (c' : VClock A) (ms : List M) :
    CtxOk L (.up d k (.rm c' ms)) ↔ ∀ a, c'.get a ≤ OrswotSpec.clk (keyLog L) a := Iff.rfl
theorem ctxOk_up_add (L : List (NOp K M A)) (d : Dot A) (k : K) (d' : Dot A) (ms : List M) :
    CtxOk L (.up d k (.add d' ms)) ↔ True := Iff.rfl

/-- derivable states of `Map<K, Orswot<M,A>, A>` under **causal, op-only delivery**: `init` and `apply` only (no state merge);
`apply` has the premises of `CMap.Reach.apply` (op from the universe, each actor's updates in issue order) plus the causal
premise on contexts `CtxOk`.  Duplicates are allowed. -/
inductive ReachC (U : List (NOp K M A)) : CMap K (Orswot M A) A → List (NOp K M A) → Prop
  | init : ReachC U CMap.init []
  | apply {s L op} : ReachC U s L → op ∈ U → OrswotSpec.Ok (keyLog U) (keyLog L) (keyOp op) → CtxOk L op →
      ReachC U (CMap.apply Orswot.valOps s op) (op :: L)

/-- log well-formedness: what generating every op through the API guarantees.  Against `DotsUnique` + `NestedOrswotWF` of the
remove-free region (Proofs/MapNested.lean): the contexts of nested removes need no `NoZero` here, since `nrep_rm` holds for any
context (there it serves `LogWF` of the nested log, for the Orswot representation theorem); of `keys`, the half about adds follows
from `dots_unique` (`logWF_keyLog`), the half about key-remove contexts does not. -/
structure NLogWF (U : List (NOp K M A)) : Prop where
  /-- key level: a dot names one update key; key-remove contexts are state clocks (`Map::rm` with a `RmCtx` read off a state) -/
  keys : OrswotSpec.LogWF (keyLog U)
  /-- `m.update(k, ctx, |set, ctx| set.add(x, ctx))`: the nested add is made with the add context of the update – same dot -/
  same_dot : ∀ d k d' ms, MapOp.up d k (OrswotOp.add d' ms) ∈ U → d' = d
  /-- `VClock::inc` / `derive_add_ctx` never yield counter 0 -/
  pos : ∀ d k o, MapOp.up d k o ∈ U → 0 < d.counter
  /-- a dot names one update (every update is made with a fresh add context) -/
  dots_unique : DotsUnique U

variable {U L : List (NOp K M A)} {s : CMap K (Orswot M A) A}

theorem ReachC.toReach (h : ReachC U s L) :
    Reach Orswot.valOps U s L := by
  induction h with
  | init => exact Reach.init
  | apply _ hu hok _ ih => exact Reach.apply ih hu hok

theorem ReachC.sub (h : ReachC U s L) : ∀ x ∈ L, x ∈ U :=
  h.toReach.sub

theorem rmCtr2_le_of_ctxOk {x : NOp K M A} (h : CtxOk L x) (k : K) (m : M) (a : A) :
    rmCtr2 k m a x ≤ OrswotSpec.clk (keyLog L) a := by
  cases x with
  | rm c ks => simp only [rmCtr2]; split; exact h a; exact Nat.zero_le _
  | up d k' o =>
    cases o with
    | add d' ms => exact Nat.zero_le _
    | rm c' ms => simp only [rmCtr2]; split; exact h a; exact Nat.zero_le _

/-- under causal delivery, no known remove reaches beyond the replica's clock -/
theorem ReachC.θ2_le_clk (h : ReachC U s L) (k : K) (m : M) (a : A) :
    θ2 L k m a ≤ OrswotSpec.clk (keyLog L) a := by
  induction h with
  | init => exact Nat.le_refl 0
  | apply _ _ _ hc ih =>
    exact Nat.le_trans (Nat.max_le.mpr ⟨rmCtr2_le_of_ctxOk hc k m a, ih⟩) (Nat.le_max_right _ _)

theorem ReachC.clock (wf : NLogWF U) (h : ReachC U s L) (a : A) :
    s.clock.get a = OrswotSpec.clk (keyLog L) a :=
  h.toReach.clock wf.keys a

theorem ReachC.deferred_empty (wf : NLogWF U) (h : ReachC U s L) :
    s.deferred = ∅ := by
  induction h with
  | init => rfl
  | @apply s L op h _ _ hc ih =>
    cases op with
    | up d k o => rewrite [apply_up_of_empty _ s d k o ih, apply_ite CMap.deferred]; exact (ite_self _).trans ih
    | rm c ks =>
      -- a context below the clock is not parked
      rw [CMap.apply, deferred_applyKeysetRm, if_neg, ih]
      exact fun hd => (defersK_iff _ _).mp hd fun a => h.clock wf a ▸ hc a

theorem ReachC.gate_mem (wf : NLogWF U) (h : ReachC U s L)
    {d : Dot A} {k : K} {o : OrswotOp M A} (hu : MapOp.up d k o ∈ U) (g : s.clock.get d.actor ≥ d.counter) :
    MapOp.up d k o ∈ L := by
  obtain ⟨o', hin⟩ := h.toReach.known_of_gate wf.keys hu (wf.pos d k o hu) g
  rewrite [(wf.dots_unique d k o k o' hu (h.sub _ hin)).2]; exact hin

/-! ### 4. a key remove, read at one key -/

/-- the nested value is reset, or – when the remove covers the whole entry clock – dropped -/
theorem nestedVal_apply_rm_mem (s : CMap K (Orswot M A) A) (c : VClock A) {ks : List K} {k : K} (hk : k ∈ ks) :
    nestedVal Orswot.valOps (apply Orswot.valOps s (.rm c ks)) k = (nestedVal Orswot.valOps s k).resetRemove c ∨
    (nestedVal Orswot.valOps (apply Orswot.valOps s (.rm c ks)) k = Orswot.init ∧
      ∀ a, (s.get k).rmClock.get a ≤ c.get a) := by
  unfold nestedVal CMap.get
  rewrite [CMap.apply, get?_applyKeysetRm, if_pos ((Orswot.contains_setOfList ks k).mpr hk), get?_rmKey_self]
  cases s.entries.get? k with
  | none => exact Or.inl (Orswot.resetRemove_init c).symm
  | some en =>
    by_cases hemp : (en.clock.resetRemove c).isEmpty = true
    · refine Or.inr ⟨by simp only [Option.bind_some, hemp, if_true]; rfl, fun a => ?_⟩
      have h1 := VClock.get_of_isEmpty hemp a
      rewrite [VClock.get_resetRemove] at h1
      exact OrswotSpec.Ev_eq_zero.mp h1
    · exact Or.inl (by simp only [Option.bind_some, hemp, Bool.false_eq_true, if_false]; rfl)

theorem nestedVal_apply_rm_not_mem (s : CMap K (Orswot M A) A) (c : VClock A) {ks : List K} {k : K} (hk : ¬ k ∈ ks) :
    nestedVal Orswot.valOps (apply Orswot.valOps s (.rm c ks)) k = nestedVal Orswot.valOps s k := by
  unfold nestedVal
  rw [CMap.apply, get?_applyKeysetRm, if_neg (fun h => hk ((Orswot.contains_setOfList ks k).mp h))]

/-! ### 5. the invariant -/

theorem ctr2_of_ne {k k' : K} (h : k' ≠ k) (m : M) (a : A) (d : Dot A) (o : OrswotOp M A) :
    addCtr2 k m a (.up d k' o) = 0 ∧ rmCtr2 k m a (.up d k' o) = 0 := by
  cases o with
  | add d' ms => exact ⟨if_neg fun hc => h hc.1, rfl⟩
  | rm c' ms => exact ⟨rfl, if_neg fun hc => h hc.1⟩

theorem ReachC.rm_clock (wf : NLogWF U) (h : ReachC U s L) (k : K) (a : A) :
    (s.get k).rmClock.get a = OrswotSpec.E (keyLog L) k a := by
  rw [← (keys_rep wf.keys h.toReach).2.entries k a, entryGet_keysView]

/-- **the invariant of the causal region**, per key: the nested value under `k` (the default if absent) stands in `NRep` to
`M2 L k`, `θ2 L k`, with the Map clock as the bound -/
theorem nested_inv (wf : NLogWF U) (h : ReachC U s L) :
    ∀ k, Orswot.NRep (M2 L k) (θ2 L k) (fun a => s.clock.get a) (nestedVal Orswot.valOps s k) := by
  induction h with
  | init => intro k; exact Orswot.nrep_init (fun m a => Nat.le_refl _)
  | @apply s L op h hu hok hctx ih =>
    intro k
    cases op with
    | up d k' o =>
      by_cases g : s.clock.get d.actor ≥ d.counter
      · -- a re-delivery: skipped by the gate, and it adds nothing to the knowledge
        have hin := h.gate_mem wf hu g
        rewrite [show CMap.apply Orswot.valOps s (.up d k' o) = s from if_pos g]
        exact Orswot.nrep_skip (ih k) (fun m a => Nat.max_eq_right (le_listMax _ hin))
          (fun m a => Nat.max_eq_right (le_listMax _ hin)) (fun a => Nat.le_refl _)
      · rewrite [nestedVal_apply_up Orswot.valOps s d k' o (h.deferred_empty wf) g k,
          clock_apply_up Orswot.valOps s d k' o (h.deferred_empty wf) g]
        have hB : ∀ a, s.clock.get a ≤ (s.clock.apply d).get a := fun a => by
          rewrite [VClock.get_apply_max]; exact Nat.le_max_right _ _
        by_cases ek : k' = k
        · subst ek
          rewrite [if_pos rfl]
          cases o with
          | add d' ms =>
            cases wf.same_dot d k' d' ms hu
            refine Orswot.nrep_add (ih k') d ms (fun m a => h.clock wf a ▸ h.θ2_le_clk k' m a) (Nat.lt_of_not_le g)
              (fun m a => ?_) hB ?_
            · simp only [M2_cons, addCtr2, true_and]
            · rewrite [VClock.get_apply, if_pos rfl]; exact Nat.le_max_right _ _
          | rm c' ms =>
            refine Orswot.nrep_rm (ih k') c' (Orswot.setOfList ms) (fun m a => ?_) hB
            simp only [θ2_cons, rmCtr2, true_and, Orswot.contains_setOfList]
        · rewrite [if_neg ek]
          exact Orswot.nrep_skip (ih k) (fun m a => Nat.max_eq_right ((ctr2_of_ne ek m a d o).1 ▸ Nat.zero_le _))
            (fun m a => Nat.max_eq_right ((ctr2_of_ne ek m a d o).2 ▸ Nat.zero_le _)) hB
    | rm c ks =>
      -- the Map clock stays, and so does `M2`: `M2 (.rm c ks :: L) k m a` is `max 0 (M2 L k m a)`, which computes to `M2 L k m a`
      show Orswot.NRep _ _ (fun a => s.clock.get a) _
      by_cases hk : k ∈ ks
      · have hθ : ∀ m a, θ2 (MapOp.rm c ks :: L) k m a = max (c.get a) (θ2 L k m a) := by
          intro m a; simp only [θ2_cons, rmCtr2, hk, if_true]
        rcases nestedVal_apply_rm_mem s c hk with e | ⟨e, hcov⟩ <;> rewrite [e]
        · exact Orswot.nrep_reset (ih k) c hθ
        · -- the remover had seen every update of `k` known here, hence every nested add under `k`
          refine Orswot.nrep_init fun m a => ?_
          rewrite [hθ]
          exact OrswotSpec.le_max_of_Ev_le (Nat.le_trans (E2_le_E L k m a) (h.rm_clock wf k a ▸ hcov a))
      · rewrite [nestedVal_apply_rm_not_mem s c hk]
        exact Orswot.nrep_skip (ih k) (fun m a => Nat.zero_max _)
          (fun m a => Nat.max_eq_right (Nat.le_trans (Nat.le_of_eq (if_neg hk)) (Nat.zero_le _))) (fun a => Nat.le_refl _)

end CMap
end Crdt
