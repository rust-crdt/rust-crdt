import CrdtModel.Proofs.MapSim
import CrdtModel.Proofs.OrswotValidate
/-! `Map::validate_merge` (src/map.rs:212-235) as a statement about the two entry tables: the double loop fails iff some
pair of entries trips the dot check (which is exactly `Orswot::validate_merge`'s check on the Orswot of keys) or some key
held by both with concurrent entry clocks has nested values that do not validate. -/
namespace Crdt

namespace CMap
variable {K V VOp A : Type} [LinOrd K] [LinOrd A]

/-- The `DoubleSpentDot` clause (src/map.rs:214-222).  Asymmetric as in the source: `a ↦ n` is a STORED dot of our entry,
`en'.clock.get a = n` reads their counter (0 when absent) – hence `EntriesWF` in `map_dot_check_symmetric`. -/
def DotHit (s o : CMap K V A) : Prop :=
  ∃ k en k' en' a n, s.entries.get? k = some en ∧ o.entries.get? k' = some en' ∧ en.clock.dots.get? a = some n ∧
    k' ≠ k ∧ en'.clock.get a = n

/-- the nested `validate_merge` clause (src/map.rs:225-230) -/
def NestedHit (ops : ValOps V VOp A) (s o : CMap K V A) : Prop :=
  ∃ k en en', s.entries.get? k = some en ∧ o.entries.get? k = some en' ∧ en.clock.concurrent en'.clock = true ∧
    ops.validateMerge en.val en'.val = false

theorem validateMerge_ok_iff (ops : ValOps V VOp A) (s o : CMap K V A) :
    validateMerge ops s o = .ok () ↔ ¬ DotHit s o ∧ ¬ NestedHit ops s o := by
  unfold validateMerge
  generalize hF : List.findSome? _ s.entries.l = hit
  have pass : hit = none ↔ ¬ DotHit s o ∧ ¬ NestedHit ops s o := by
    -- the outer search by `rewrite`, the inner one under the outer's binders by hand (`simp only` is slow to get there)
    rewrite [← hF, FMap.findSome?_eq_none_iff]
    refine Iff.trans (forall_congr' fun k => forall_congr' fun en => imp_congr_right fun _ =>
      FMap.findSome?_eq_none_iff) ?_
    simp only [ite_some_eq_none, FMap.any_eq_true_iff, Bool.and_eq_true, decide_eq_true_eq, Bool.not_eq_true', and_true]
    constructor
    · intro h
      constructor
      · rintro ⟨k, en, k', en', a, n, gk, gk', hd⟩; exact (h k en gk k' en' gk').1 ⟨a, n, hd⟩
      · rintro ⟨k, en, en', gk, gk', hc, hv⟩; exact (h k en gk k en' gk').2 ⟨⟨rfl, hc⟩, hv⟩
    · rintro ⟨nd, nn⟩ k en gk k' en' gk'
      constructor
      · rintro ⟨a, n, hd⟩; exact nd ⟨k, en, k', en', a, n, gk, gk', hd⟩
      · rintro ⟨⟨rfl, hc⟩, hv⟩; exact nn ⟨k, en, en', gk, gk', hc, hv⟩
  rewrite [← pass]; cases hit <;> simp

theorem nestedHit_symm (ops : ValOps V VOp A) (hsym : ∀ v v', ops.validateMerge v v' = ops.validateMerge v' v)
    (s o : CMap K V A) : NestedHit ops s o ↔ NestedHit ops o s := by
  have one : ∀ s o : CMap K V A, NestedHit ops s o → NestedHit ops o s := by
    rintro s o ⟨k, en, en', h1, h2, hc, hv⟩
    exact ⟨k, en', en, h2, h1, VClock.concurrent_symm en.clock en'.clock ▸ hc, hsym en.val en'.val ▸ hv⟩
  exact ⟨one s o, one o s⟩

/-- the dot check of `Map::validate_merge` is `Orswot::validate_merge`'s check on the Orswot of keys -/
theorem dotHit_iff_keys (s o : CMap K V A) : DotHit s o ↔ Orswot.Hit s.keysView o.keysView := by
  unfold DotHit Orswot.Hit
  constructor
  · rintro ⟨k, en, k', en', a, n, gk, gk', h⟩
    exact ⟨k, en.clock, k', en'.clock, a, n, by rewrite [get?_keysView, gk]; rfl,
      by rewrite [get?_keysView, gk']; rfl, h⟩
  · rintro ⟨k, c, k', c', a, n, gk, gk', h⟩
    rewrite [get?_keysView, Option.map_eq_some_iff] at gk gk'
    obtain ⟨en, gk, rfl⟩ := gk
    obtain ⟨en', gk', rfl⟩ := gk'
    exact ⟨k, en, k', en', a, n, gk, gk', h⟩

end CMap
end Crdt
