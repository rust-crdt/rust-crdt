import CrdtModel.Spec.SysList
import CrdtModel.Props.C12
import CrdtModel.Proofs.SysDots
/-!
# The system invariant for `List`: every reachable configuration has a well-formed log and `Reach`-derivable states

`SysInv` holds initially and every step keeps it: a generation step because the op it adds satisfies `C12.GenOk` at the
issuing replica, the hypothesis of the generation lemma `C12.gen_op`; a delivery because the log stays.  The dot
bookkeeping is the shared `Sys.Dots` of `Proofs/SysDots.lean`.  `runC_run`: the causal system is a sub-system.
-/
namespace Crdt.SysList
open ListSpec ListCrdt Crdt.Sys
open OpRepSys (Reach)
variable {τ A : Type} [LinOrd A]

structure SysInv (c : Cfg τ A) : Prop where
  /-- (a) the log is well-formed: every op carries a dot with a positive counter (for an insert: the last marker of its
  identifier, which is therefore non-empty), and no two ops carry the same dot -/
  wf : LogWF c.log
  /-- (b) every replica state is derivable over the log with its knowledge -/
  reach : ∀ i, listSys.Reach c.log (c.rep i) (c.know i)
  /-- (c) an actor's replica knows all of that actor's ops -/
  own : ∀ i, ∀ o ∈ c.log, ∀ d, o.dot = some d → d.actor = i → o ∈ c.know i
  /-- (d) dot counters are contiguous per actor: below a counter of the log, every positive counter of that actor is
  carried by an op of the log -/
  contig : ∀ o ∈ c.log, ∀ d, o.dot = some d → ∀ n, 0 < n → n ≤ d.counter → ∃ o' ∈ c.log, o'.dot = some ⟨d.actor, n⟩

variable {c : Cfg τ A}

theorem sysInv_init : SysInv (Cfg.init : Cfg τ A) :=
  ⟨⟨fun _ h => (by cases h), fun _ h => (by cases h)⟩, fun _ => Reach.init, fun _ _ h => (by cases h), fun _ h => (by cases h)⟩

theorem isTop_clk (K : List (ListOp τ A)) (i : A) : IsTop ListOp.dot K i (clk K i) := by
  refine ⟨fun _ ho _ hd ha => ha ▸ le_clk ho hd, fun h => ?_⟩
  obtain ⟨o, ho, d, hd, ha, hc⟩ := clk_attained h
  exact ⟨o, ho, by rw [hd, ← hc, ← ha]⟩

namespace SysInv

/-- the fields (a), (c), (d) are the generic bookkeeping of dots -/
theorem dots (inv : SysInv c) : Dots ListOp.dot c.log c.know where
  own := fun o ho d hd => inv.own _ o ho d hd rfl
  pos := fun o ho d hd => by
    obtain ⟨d', e, hp⟩ := inv.wf.dot_pos o ho
    cases hd.symm.trans e
    exact hp
  uniq := fun o ho o' ho' d hd hd' => inv.wf.dot_unique o ho o' ho' (hd.trans hd'.symm)
  contig := inv.contig

theorem ofDots (wf : LogWF c.log) (reach : ∀ i, listSys.Reach c.log (c.rep i) (c.know i))
    (dots : Dots ListOp.dot c.log c.know) : SysInv c :=
  ⟨wf, reach, fun _ o ho d hd ha => ha ▸ dots.own o ho d hd, dots.contig⟩

theorem clk_know_eq_log (inv : SysInv c) (i : A) : clk (c.know i) i = clk c.log i :=
  C12.clk_eq_of_own (inv.reach i) (inv.own i)

theorem top (inv : SysInv c) (i : A) : IsTop ListOp.dot c.log i (clk (c.know i) i) :=
  inv.clk_know_eq_log i ▸ isTop_clk c.log i

end SysInv

theorem sysInv_gen {i : A} {op : ListOp τ A} (inv : SysInv c) (g : C12.GenOk (c.rep i) (c.know i) i op) :
    SysInv (c.gen i op) ∧ ∀ {s K}, listSys.Reach c.log s K → listSys.Reach (op :: c.log) s K := by
  obtain ⟨hd, -, wf, ok, ext⟩ := C12.gen_op inv.wf (inv.reach i) i (inv.own i) g
  -- the longer log is well-formed; replica `i` applies the op, the others stay, all carried over to the longer log
  -- (`ext`); the dot bookkeeping gains the dot on top of `i`'s newest
  exact ⟨.ofDots wf
    (forall_upd₂ (Reach.apply (R := listSys) (ext _ _ (inv.reach i)) List.mem_cons_self ok) fun j => ext _ _ (inv.reach j))
    (inv.dots.cons (inv.top i) fun _ e => Option.some.inj (e.symm.trans hd)), ext _ _⟩

/-- the identifier `insert_index` builds ends in the op's dot (`insertIndex_value`, the clock rewritten by `C12.inc_eq`) -/
theorem gen_insert_id_value {c : Cfg τ A} (inv : SysInv c) (i : A) (ix : Nat) (v : τ) :
    ((c.rep i).insertIndex ix v i).id.value = some (OrdDot.ofDot ⟨i, clk (c.know i) i + 1⟩) := by
  rw [insertIndex_value, C12.inc_eq inv.wf (inv.reach i) i]

theorem gen_insert_id_nonempty {c : Cfg τ A} (i : A) (ix : Nat) (v : τ) :
    ((c.rep i).insertIndex ix v i).id.path ≠ [] := insertIndex_id_nonempty _ ix v i

/-- EVERY insert of the log, delivered at the issuing replica or not: the new identifier's last marker is a dot no op of
the log carries -/
theorem gen_insert_id_unique (inv : SysInv c) (i : A) (ix : Nat) (v : τ) :
    ∀ id w, ListOp.insert id w ∈ c.log → id ≠ ((c.rep i).insertIndex ix v i).id :=
  (C12.gen_insert inv.wf (inv.reach i) ix v i (inv.own i)).2.2.2.1

theorem sysInv_step {c' : Cfg τ A} (inv : SysInv c) (st : Step c c') :
    SysInv c' ∧ ∀ {s K}, listSys.Reach c.log s K → listSys.Reach c'.log s K := by
  cases st with
  | insertIndex i ix v => exact sysInv_gen inv (C12.genOk_insertIndex _ _ ix v i)
  | append i v => exact sysInv_gen inv (C12.genOk_insertIndex _ _ (c.rep i).len v i)
  | deleteIndex i ix op hg => exact sysInv_gen inv (C12.genOk_deleteIndex inv.wf (inv.reach i) hg)
  | deliver i op hu ok =>
    exact ⟨.ofDots inv.wf (forall_upd₂ (Reach.apply (R := listSys) (inv.reach i) hu ok) inv.reach)
      (inv.dots.upd fun _ => List.mem_cons_of_mem _), id⟩

/-- the log only grows -/
theorem steps_log_sub {c c' : Cfg τ A} (st : Steps c c') : ∀ o ∈ c.log, o ∈ c'.log := by
  induction st with
  | refl => exact fun _ h => h
  | step _ s ih =>
    intro o ho
    cases s with
    | deliver => exact ih o ho
    | _ => exact List.mem_cons_of_mem _ (ih o ho)

theorem sysInv_run (r : Run c) : SysInv c := by
  induction r with
  | init => exact sysInv_init
  | step _ st ih => exact (sysInv_step ih st).1

theorem run_steps {c' : Cfg τ A} (r : Run c) (st : Steps c c') :
    Run c' ∧ ∀ {s K}, listSys.Reach c.log s K → listSys.Reach c'.log s K := by
  induction st with
  | refl => exact ⟨r, id⟩
  | step _ s ih => exact ⟨ih.1.step s, fun h => (sysInv_step (sysInv_run ih.1) s).2 (ih.2 h)⟩

/-- what the recorded dependencies guarantee: the op is in the log, its dependencies contain all earlier ops of its
actor and – for a delete – the insert it targets -/
structure DepsInv (cc : CfgC τ A) : Prop where
  mem : ∀ p ∈ cc.deps, p.1 ∈ cc.cfg.log
  preds : ∀ p ∈ cc.deps, PredsIn cc.cfg.log p.2 p.1
  target : ∀ p ∈ cc.deps, TargetIn p.2 p.1

variable {cc : CfgC τ A} {i : A} {op : ListOp τ A}

theorem depsInv_init : DepsInv (CfgC.init : CfgC τ A) :=
  ⟨fun _ h => (by cases h), fun _ h => (by cases h), fun _ h => (by cases h)⟩

theorem depsInv_gen (inv : SysInv cc.cfg) (dinv : DepsInv cc) (g : C12.GenOk (cc.cfg.rep i) (cc.cfg.know i) i op) :
    DepsInv (cc.gen i op) := by
  obtain ⟨hd, -, -, ok, -⟩ := C12.gen_op inv.wf (inv.reach i) i (inv.own i) g
  have hn : clk cc.cfg.log i < clk (cc.cfg.know i) i + 1 := Nat.lt_succ_of_le (Nat.le_of_eq (inv.clk_know_eq_log i).symm)
  exact ⟨List.forall_mem_cons.mpr ⟨List.mem_cons_self, fun p hp => List.mem_cons_of_mem _ (dinv.mem p hp)⟩,
    List.forall_mem_cons.mpr ⟨ok.1, fun p hp => C12.predsIn_cons hd hn (dinv.mem p hp) (dinv.preds p hp)⟩,
    List.forall_mem_cons.mpr ⟨g.2, dinv.target⟩⟩

theorem depsInv_ok (dinv : DepsInv cc) {D : List (ListOp τ A)}
    (hp : (op, D) ∈ cc.deps) (causal : ∀ o ∈ D, o ∈ cc.cfg.know i) : Ok cc.cfg.log (cc.cfg.know i) op :=
  C12.causal_implies_ok (dinv.preds _ hp) (dinv.target _ hp) causal

theorem runC_run (r : RunC cc) : Run cc.cfg ∧ DepsInv cc := by
  induction r with
  | init => exact ⟨.init, depsInv_init⟩
  | step _ st ih =>
    obtain ⟨r, dinv⟩ := ih
    have inv := sysInv_run r
    cases st with
    | insertIndex i ix v => exact ⟨r.step (.insertIndex _ i ix v), depsInv_gen inv dinv (C12.genOk_insertIndex _ _ ix v i)⟩
    | append i v => exact ⟨r.step (.append _ i v), depsInv_gen inv dinv (C12.genOk_insertIndex _ _ _ v i)⟩
    | deleteIndex i ix op hg =>
      exact ⟨r.step (.deleteIndex _ i ix op hg), depsInv_gen inv dinv (C12.genOk_deleteIndex inv.wf (inv.reach i) hg)⟩
    | deliver i op D hp causal =>
      exact ⟨r.step (.deliver _ i op (dinv.mem _ hp) (depsInv_ok dinv hp causal)), dinv.mem, dinv.preds, dinv.target⟩

end Crdt.SysList
