import CrdtModel.Spec.VClock
/-! What each vector-clock function does to the stored map (`dots.get?`, for all clocks) and, from that, to the counters
(`get`).  For clocks without stored zeros the map is determined by the counters, and every function keeps clocks
zero-free.  Then what each verdict of `partial_cmp` says about the pointwise order `le`. -/
namespace Crdt
namespace VClock
variable {α : Type} [LinOrd α]

@[simp] theorem get_empty (a : α) : (∅ : VClock α).get a = 0 := rfl

theorem ext_get? {a b : VClock α} (h : ∀ x, a.dots.get? x = b.dots.get? x) : a = b := by
  cases a; cases b; exact congrArg mk (FMap.ext h)

theorem get_eq_of_get? {c : VClock α} {a : α} {n : Nat} (h : c.dots.get? a = some n) : c.get a = n := by
  simp [get, h]

theorem get_of_mem {c : VClock α} {a : α} {n : Nat} (h : (a, n) ∈ c.dots.l) : c.get a = n :=
  get_eq_of_get? (FMap.mem_l_iff.mp h)

theorem get_eq_zero_of_none {c : VClock α} {a : α} (h : c.dots.get? a = none) : c.get a = 0 := by
  simp [get, h]

theorem get?_of_get_ne_zero {c : VClock α} {a : α} (h : c.get a ≠ 0) : c.dots.get? a = some (c.get a) := by
  cases hg : c.dots.get? a with
  | none => exact absurd (get_eq_zero_of_none hg) h
  | some n => rw [get_eq_of_get? hg]

/-- for zero-free clocks a statement about `dots.get?` follows from the one about `get` -/
theorem NoZero.get?_eq {c : VClock α} (h : c.NoZero) (a : α) :
    c.dots.get? a = if c.get a = 0 then none else some (c.get a) := by
  unfold get
  cases hg : c.dots.get? a with
  | none => rfl
  | some n => exact (if_neg fun e => h a (hg.trans (congrArg some e))).symm

theorem ext_get {a b : VClock α} (ha : a.NoZero) (hb : b.NoZero) (h : ∀ x, a.get x = b.get x) : a = b :=
  ext_get? fun x => by rw [ha.get?_eq, hb.get?_eq, h x]

theorem noZero_empty : (∅ : VClock α).NoZero := fun _ => nofun

theorem get?_apply (c : VClock α) (d : Dot α) (a : α) :
    (c.apply d).dots.get? a =
      if a = d.actor ∧ c.get a < d.counter then some d.counter else c.dots.get? a := by
  unfold apply
  by_cases e : a = d.actor
  · subst e; by_cases h : c.get d.actor < d.counter <;> simp [h]
  · by_cases h : c.get d.actor < d.counter <;> simp [h, e]

theorem get_apply (c : VClock α) (d : Dot α) (a : α) :
    (c.apply d).get a = if a = d.actor then max (c.get a) d.counter else c.get a := by
  rewrite [get, get?_apply]
  by_cases h : a = d.actor ∧ c.get a < d.counter
  · rewrite [if_pos h, if_pos h.1]; exact (Nat.max_eq_right (Nat.le_of_lt h.2)).symm
  · rewrite [if_neg h]
    split
    · next e => exact (Nat.max_eq_left (Nat.le_of_not_lt fun lt => h ⟨e, lt⟩)).symm
    · rfl

/-- `apply` as a maximum, the form in which a log's counters are folded (`listMax_cons`) -/
theorem get_apply_max (c : VClock α) (d : Dot α) (a : α) :
    (c.apply d).get a = max (if d.actor = a then d.counter else 0) (c.get a) := by
  rewrite [get_apply]
  by_cases e : a = d.actor
  · rw [if_pos e, if_pos e.symm, Nat.max_comm]
  · rw [if_neg e, if_neg (Ne.symm e), Nat.zero_max]

theorem noZero_apply {c : VClock α} (h : c.NoZero) (d : Dot α) : (c.apply d).NoZero := by
  intro a
  rewrite [get?_apply]
  split
  · next hh => exact fun e => Nat.ne_of_gt (Nat.zero_lt_of_lt hh.2) (Option.some.inj e)
  · exact h a

theorem inc_eq (c : VClock α) (a : α) : c.inc a = ⟨a, c.get a + 1⟩ := rfl

theorem get_apply_inc (c : VClock α) (a x : α) :
    (c.apply (c.inc a)).get x = if x = a then c.get a + 1 else c.get x := by
  rewrite [inc_eq, get_apply]
  split
  · next e => rewrite [e]; exact Nat.max_eq_right (Nat.le_succ _)
  · rfl

/-- `merge` is the pointwise maximum (src/vclock.rs:139-143) -/
theorem get_merge (c o : VClock α) (a : α) : (c.merge o).get a = max (c.get a) (o.get a) := by
  refine (FMap.foldl_obs (fun (acc : VClock α) p => acc.apply ⟨p.1, p.2⟩) (fun c a => c.get a)
    (fun s k v a e => (get_apply ..).trans (if_neg e))
    (fun s s' k v h => by simp only [get_apply, h]) o.dots c a).trans ?_
  show _ = max (c.get a) ((o.dots.get? a).getD 0)
  cases o.dots.get? a with
  | none => exact (Nat.max_zero _).symm
  | some n => exact (get_apply ..).trans (if_pos rfl)

theorem noZero_merge {c : VClock α} (h : c.NoZero) (o : VClock α) : (c.merge o).NoZero :=
  List.foldlRecOn _ _ h fun _ hc _ _ => noZero_apply hc _

theorem noZero_fromIter (ds : List (Dot α)) : (fromIter ds).NoZero :=
  List.foldlRecOn _ _ noZero_empty fun _ hc _ _ => noZero_apply hc _

theorem validateOp_error (c : VClock α) (d : Dot α) (h : c.get d.actor + 1 < d.counter) :
    c.validateOp d = .error ⟨d.actor, c.get d.actor + 1, d.counter⟩ := if_pos h

theorem validateOp_ok_iff (c : VClock α) (d : Dot α) : c.validateOp d = .ok () ↔ d.counter ≤ c.get d.actor + 1 :=
  ⟨fun e => Nat.le_of_not_lt (fun h => nomatch (validateOp_error c d h).symm.trans e),
   fun h => if_neg (Nat.not_lt.mpr h)⟩

theorem get?_resetRemove (s c : VClock α) (a : α) :
    (s.resetRemove c).dots.get? a =
      match c.dots.get? a with
      | some n => if n ≥ s.get a then none else s.dots.get? a
      | none => s.dots.get? a := by
  have step : ∀ (s : VClock α) k v, (if v ≥ s.get k then (⟨s.dots.erase k⟩ : VClock α) else s).dots.get? k =
      if v ≥ s.get k then none else s.dots.get? k := by
    intro s k v
    by_cases h : v ≥ s.get k <;> simp [h]
  refine (FMap.foldl_obs (fun (acc : VClock α) p => if p.2 ≥ acc.get p.1 then ⟨acc.dots.erase p.1⟩ else acc)
    (fun c a => c.dots.get? a) ?_ ?_ c.dots s a).trans ?_
  · intro s k v a e
    by_cases h : v ≥ s.get k <;> simp [h, e]
  · -- the step at `k` reads `s.get k`, which is `getD 0` of the observed `get? k`
    intro s s' k v h
    exact (step s k v).trans
      ((congrArg (fun o : Option Nat => if v ≥ o.getD 0 then none else o) h).trans (step s' k v).symm)
  · cases c.dots.get? a with
    | none => rfl
    | some n => exact step s a n

/-- `reset_remove` keeps exactly the entries strictly newer than the argument (src/vclock.rs:85-91) -/
theorem get_resetRemove (c o : VClock α) (a : α) :
    (c.resetRemove o).get a = if c.get a > o.get a then c.get a else 0 := by
  rewrite [get, get?_resetRemove]
  cases h : o.dots.get? a with
  | none =>
    rewrite [get_eq_zero_of_none h]
    show c.get a = _
    split
    · rfl
    · next h0 => exact Nat.eq_zero_of_not_pos h0
  | some n =>
    rewrite [get_eq_of_get? h]
    show (if n ≥ c.get a then none else c.dots.get? a).getD 0 = _
    by_cases hn : n ≥ c.get a
    · rewrite [if_pos hn, if_neg (Nat.not_lt.mpr hn)]; rfl
    · rewrite [if_neg hn, if_pos (Nat.lt_of_not_le hn)]; rfl

theorem noZero_resetRemove {c : VClock α} (h : c.NoZero) (o : VClock α) : (c.resetRemove o).NoZero := by
  intro a
  rewrite [get?_resetRemove]
  split
  · split
    · nofun
    · exact h a
  · exact h a

theorem get?_glb (c o : VClock α) (a : α) :
    (c.glb o).dots.get? a =
      (c.dots.get? a).bind (fun n => if min n (o.get a) = 0 then none else some (min n (o.get a))) :=
  FMap.get?_filterMap _ c.dots a

theorem noZero_glb (c o : VClock α) : (c.glb o).NoZero := by
  intro a
  rewrite [get?_glb]
  cases c.dots.get? a with
  | none => nofun
  | some n =>
    simp only [Option.bind_some]
    split
    · nofun
    · next hk => intro e; injection e with e; exact hk e

/-- `glb` is the pointwise minimum (src/vclock.rs:256-270) -/
theorem get_glb (c o : VClock α) (a : α) : (c.glb o).get a = min (c.get a) (o.get a) := by
  rewrite [get, get?_glb]
  cases h : c.dots.get? a with
  | none => rewrite [get_eq_zero_of_none h]; exact (Nat.zero_min _).symm
  | some n =>
    rewrite [get_eq_of_get? h, Option.bind_some]
    split
    · next hm => exact hm.symm
    · rfl

theorem get?_intersection (l r : VClock α) (a : α) :
    (intersection l r).dots.get? a =
      (l.dots.get? a).bind (fun n => if r.get a = n then some n else none) := by
  refine (FMap.foldl_obs (fun (acc : FMap α Nat) p => if r.get p.1 = p.2 then acc.insert p.1 p.2 else acc)
    (fun m a => m.get? a) (fun s k v a e => by by_cases h : r.get k = v <;> simp [h, e])
    (fun s s' k v h => by by_cases h' : r.get k = v <;> simp [h', h]) l.dots ∅ a).trans ?_
  cases l.dots.get? a with
  | none => rfl
  | some n => by_cases h : r.get a = n <;> simp [h]

/-- `intersection` keeps exactly the entries on which both clocks agree (src/vclock.rs:225-237) -/
theorem get_intersection (l r : VClock α) (a : α) :
    (intersection l r).get a = if l.get a = r.get a then l.get a else 0 := by
  rewrite [get, get?_intersection]
  cases h : l.dots.get? a with
  | none => rewrite [get_eq_zero_of_none h]; simp
  | some n =>
    rewrite [get_eq_of_get? h, Option.bind_some]
    by_cases e : r.get a = n
    · rewrite [if_pos e, if_pos e.symm]; rfl
    · rewrite [if_neg e, if_neg (Ne.symm e)]; rfl

theorem noZero_intersection {l : VClock α} (h : l.NoZero) (r : VClock α) : (intersection l r).NoZero := by
  intro a
  rewrite [get?_intersection]
  cases hh : l.dots.get? a with
  | none => nofun
  | some n =>
    simp only [Option.bind_some]
    split
    · exact hh ▸ h a
    · nofun

theorem isEmpty_iff_get {c : VClock α} (h : c.NoZero) : c.isEmpty = true ↔ ∀ a, c.get a = 0 := by
  rewrite [isEmpty, FMap.isEmpty_iff]
  refine forall_congr' fun a => ?_
  rewrite [h.get?_eq]; split <;> simp [*]

theorem get_of_isEmpty {c : VClock α} (h : c.isEmpty = true) (a : α) : c.get a = 0 :=
  get_eq_zero_of_none (FMap.isEmpty_iff.mp h a)

theorem isEmpty_empty : (∅ : VClock α).isEmpty = true := rfl

theorem eq_empty_of_isEmpty {c : VClock α} (h : c.isEmpty = true) : c = ∅ :=
  ext_get? (FMap.isEmpty_iff.mp h)

theorem le_of_isEmpty {c : VClock α} (h : c.isEmpty = true) (d : VClock α) : c.le d := fun x => by
  rewrite [get_of_isEmpty h x]; exact Nat.zero_le _

theorem nonempty_of_not_le {c k : VClock α} (h : ¬ c.le k) : c.isEmpty = false :=
  Bool.eq_false_iff.mpr fun he => h (le_of_isEmpty he k)

theorem apply_nonempty (c : VClock α) {d : Dot α} (hd : 0 < d.counter) : (c.apply d).isEmpty = false :=
  Bool.eq_false_iff.mpr fun he => by
    have := get_of_isEmpty he d.actor
    rewrite [get_apply, if_pos rfl] at this
    exact Nat.ne_of_gt (Nat.lt_of_lt_of_le hd (Nat.le_max_right ..)) this

theorem all_ge_iff (a b : VClock α) :
    b.dots.l.all (fun p => a.get p.1 ≥ p.2) = true ↔ b.le a := by
  simp only [List.all_eq_true, decide_eq_true_eq, le]
  constructor
  · intro h x
    cases hx : b.dots.get? x with
    | none => simp [get, hx]
    | some n => rewrite [get_eq_of_get? hx]; exact h (x, n) (FMap.mem_l_iff.mpr hx)
  · intro h p hp
    rewrite [← get_of_mem hp]; exact h p.1

theorem le_refl (a : VClock α) : a.le a := fun _ => Nat.le_refl _
theorem le_trans {a b c : VClock α} (h1 : a.le b) (h2 : b.le c) : a.le c := fun x => Nat.le_trans (h1 x) (h2 x)
theorem le_antisymm {a b : VClock α} (ha : a.NoZero) (hb : b.NoZero) (h1 : a.le b) (h2 : b.le a) : a = b :=
  ext_get ha hb (fun x => Nat.le_antisymm (h1 x) (h2 x))

/-- Rust tests `==`, then `>`, then `<`: the `gt` row says nothing of `a.le b` (a stored zero can make `a ≠ b` with both
`le`); the `lt` row is reached only after `b.le a` failed and is exact. -/
theorem partialCmp_cases (a b : VClock α) :
    (a.partialCmp b = some .eq ∧ a = b) ∨
    (a.partialCmp b = some .gt ∧ a ≠ b ∧ b.le a) ∨
    (a.partialCmp b = some .lt ∧ a ≠ b ∧ ¬ b.le a ∧ a.le b) ∨
    (a.partialCmp b = none ∧ a ≠ b ∧ ¬ b.le a ∧ ¬ a.le b) := by
  fun_cases partialCmp a b with
  | case1 e => exact .inl ⟨rfl, e⟩
  | case2 e h1 => exact .inr (.inl ⟨rfl, e, (all_ge_iff a b).mp h1⟩)
  | case3 e h1 h2 => exact .inr (.inr (.inl ⟨rfl, e, mt (all_ge_iff a b).mpr h1, (all_ge_iff b a).mp h2⟩))
  | case4 e h1 h2 => exact .inr (.inr (.inr ⟨rfl, e, mt (all_ge_iff a b).mpr h1, mt (all_ge_iff b a).mpr h2⟩))

theorem partialCmp_eq_iff (a b : VClock α) : a.partialCmp b = some .eq ↔ a = b := by
  rcases partialCmp_cases a b with ⟨h, e⟩ | ⟨h, ne, _⟩ | ⟨h, ne, _⟩ | ⟨h, ne, _⟩ <;> rewrite [h]
  · exact iff_of_true rfl e
  all_goals exact iff_of_false nofun ne

theorem partialCmp_lt_iff (a b : VClock α) : a.partialCmp b = some .lt ↔ a.le b ∧ ¬ b.le a := by
  rcases partialCmp_cases a b with ⟨h, e⟩ | ⟨h, _, l⟩ | ⟨h, _, n, l⟩ | ⟨h, _, n, l⟩ <;> rewrite [h]
  · subst e; simp [le_refl]
  · simp [l]
  · simp [n, l]
  · simp [l]

/-- Needs `NoZero` (`{1:0} > {}` otherwise: the `gt` row of `partialCmp_cases`).  `ge_iff` needs none: `ge` is `gt ∨ eq`,
which absorbs that case. -/
theorem partialCmp_gt_iff {a b : VClock α} (ha : a.NoZero) (hb : b.NoZero) :
    a.partialCmp b = some .gt ↔ b.le a ∧ ¬ a.le b := by
  rcases partialCmp_cases a b with ⟨h, e⟩ | ⟨h, ne, l⟩ | ⟨h, _, n, l⟩ | ⟨h, _, n, l⟩ <;> rewrite [h]
  · subst e; simp [le_refl]
  · simp only [true_iff]; exact ⟨l, fun l' => ne (le_antisymm ha hb l' l)⟩
  · simp [n]
  · simp [n]

theorem partialCmp_none_iff (a b : VClock α) : a.partialCmp b = none ↔ ¬ a.le b ∧ ¬ b.le a := by
  rcases partialCmp_cases a b with ⟨h, e⟩ | ⟨h, _, l⟩ | ⟨h, _, n, l⟩ | ⟨h, _, n, l⟩ <;> rewrite [h]
  · subst e; simp [le_refl]
  · simp [l]
  · simp [l]
  · simp [n, l]

theorem concurrent_iff (a b : VClock α) : a.concurrent b = true ↔ ¬ a.le b ∧ ¬ b.le a := by
  simp only [concurrent, Option.isNone_iff_eq_none]; exact partialCmp_none_iff a b

theorem concurrent_symm (a b : VClock α) : a.concurrent b = b.concurrent a :=
  Bool.eq_iff_iff.mpr ((concurrent_iff a b).trans (And.comm.trans (concurrent_iff b a).symm))

theorem ge_iff (a b : VClock α) : a.ge b = true ↔ b.le a := by
  unfold ge
  rcases partialCmp_cases a b with ⟨h, e⟩ | ⟨h, _, l⟩ | ⟨h, _, n, _⟩ | ⟨h, _, n, _⟩ <;> rewrite [h]
  · subst e; simp [le_refl]
  · simp [l]
  · simp [n]
  · simp [n]

/-- strict pointwise order on clocks ("causally before") -/
def slt (a b : VClock α) : Prop := a.le b ∧ ¬ b.le a

theorem slt_irrefl (a : VClock α) : ¬ a.slt a := fun h => h.2 h.1
theorem slt_trans {a b c : VClock α} (h1 : a.slt b) (h2 : b.slt c) : a.slt c :=
  ⟨le_trans h1.1 h2.1, fun h => h1.2 (le_trans h2.1 h)⟩
theorem slt_of_le_of_slt {a b c : VClock α} (h1 : a.le b) (h2 : b.slt c) : a.slt c :=
  ⟨le_trans h1 h2.1, fun h => h2.2 (le_trans h h1)⟩
theorem slt_of_slt_of_le {a b c : VClock α} (h1 : a.slt b) (h2 : b.le c) : a.slt c :=
  ⟨le_trans h1.1 h2, fun h => h1.2 (le_trans h2 h)⟩
theorem slt_asymm {a b : VClock α} (h1 : a.slt b) : ¬ b.slt a := fun h2 => h1.2 h2.1
theorem ne_of_slt {a b : VClock α} (h : a.slt b) : a ≠ b := fun e => by subst e; exact slt_irrefl a h

theorem lt_iff_slt (a b : VClock α) : a.lt b = true ↔ a.slt b := by
  rewrite [lt, beq_iff_eq]; exact partialCmp_lt_iff a b

theorem lt_eq_false_iff (a b : VClock α) : a.lt b = false ↔ ¬ a.slt b := by
  rw [← Bool.not_eq_true, lt_iff_slt]

theorem gt_iff_slt {a b : VClock α} (ha : a.NoZero) (hb : b.NoZero) : a.gt b = true ↔ b.slt a := by
  rewrite [gt, beq_iff_eq]; exact partialCmp_gt_iff ha hb

end VClock

/-! Of the executable `Spec/VClock.lean` only `ofFun` and `noZero` are linked to the model (other specifications are
built from them); `cmp`, `le`, `merge`, … are what the driver prints as oracle, and no theorem is about them. -/
namespace VClockSpec
variable {α : Type} [LinOrd α]

theorem noZero_iff (c : VClock α) : VClockSpec.noZero c = true ↔ c.NoZero := by
  unfold noZero VClock.NoZero
  rewrite [List.all_eq_true]
  constructor
  · intro h a e
    have := h (a, 0) (FMap.mem_l_iff.mpr e)
    simp at this
  · intro h p hp
    simp only [bne_iff_ne, ne_eq]
    intro e
    exact h p.1 (e ▸ FMap.mem_l_iff.mp hp)

theorem get?_ofFun (as : List α) (f : α → Nat) (x : α) :
    (ofFun as f).dots.get? x = if x ∈ as ∧ f x ≠ 0 then some (f x) else none :=
  FMap.get?_foldl_insert_unless (f · = 0) f as ∅ x

theorem noZero_ofFun (as : List α) (f : α → Nat) : (ofFun as f).NoZero := by
  intro a
  rewrite [get?_ofFun]
  split
  · next h => intro e; injection e with e; exact h.2 e
  · simp

theorem get_ofFun (as : List α) (f : α → Nat) (x : α) (h : f x ≠ 0 → x ∈ as) :
    (ofFun as f).get x = f x := by
  unfold VClock.get
  rewrite [get?_ofFun]
  by_cases hz : f x = 0
  · simp [hz]
  · simp [hz, h hz]

end VClockSpec
end Crdt
