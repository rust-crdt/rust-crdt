import CrdtModel.Proofs.MapSim
import CrdtModel.Model.MapInst
import CrdtModel.Proofs.ResetRemoveOrswot
/-! `Map::reset_remove` (src/map.rs:90-119): at key level it IS `Orswot::reset_remove` on the keys view (for every value
type); the value under a surviving key is the value type's own `reset_remove` of the old value.  The laws (`rr ∅ = id`,
composition, idempotence, preservation of well-formedness) follow for every value type whose own `reset_remove` is lawful
(`RRLawful`), and a `Map` over a lawful value type is again lawful – hence at every nesting depth. -/
namespace Crdt

namespace CMap
variable {K V VOp A : Type} [LinOrd K] [LinOrd A]

/-- the entry step of `Map::reset_remove` (src/map.rs:94-102) -/
def rrEntry (ops : ValOps V VOp A) (c : VClock A) (en : MapEntry V A) : Option (MapEntry V A) :=
  let ec := en.clock.resetRemove c
  if ec.isEmpty then none else some ⟨ec, ops.resetRemove en.val c⟩

@[simp] theorem clock_resetRemove (ops : ValOps V VOp A) (s : CMap K V A) (c : VClock A) :
    (resetRemove ops s c).clock = s.clock.resetRemove c := rfl

theorem get?_resetRemove (ops : ValOps V VOp A) (s : CMap K V A) (c : VClock A) (k : K) :
    (resetRemove ops s c).entries.get? k = (s.entries.get? k).bind (rrEntry ops c) :=
  FMap.get?_filterMap (fun _ => rrEntry ops c) s.entries k

theorem rrEntry_eq (ops : ValOps V VOp A) (c : VClock A) (en : MapEntry V A) :
    rrEntry ops c en = (VClock.rrClock c en.clock).map (fun k => ⟨k, ops.resetRemove en.val c⟩) := by
  simp only [rrEntry, VClock.rrClock, apply_ite (Option.map _)]; rfl

theorem rrEntry_clock (ops : ValOps V VOp A) (c : VClock A) (en : MapEntry V A) :
    (rrEntry ops c en).map (·.clock) = VClock.rrClock c en.clock := by
  rewrite [rrEntry_eq, Option.map_map]
  cases VClock.rrClock c en.clock <;> rfl

/-- `Map::reset_remove` is, at key level, `Orswot::reset_remove` – for every value type -/
theorem resetRemove_sim (ops : ValOps V VOp A) (s : CMap K V A) (c : VClock A) :
    (resetRemove ops s c).keysView = Orswot.resetRemove s.keysView c := by
  refine Orswot.ext rfl (FMap.ext fun k => ?_) rfl
  rewrite [get?_keysView, get?_resetRemove, Orswot.get?_entries_resetRemove, get?_keysView]
  cases s.entries.get? k with
  | none => rfl
  | some en => exact rrEntry_clock ops c en

/-- what `Map` needs from the value type's `reset_remove`, on the value states satisfying `W`.  `VClock.RRComp c1 c2 c3`
(Proofs/ResetRemove.lean) says that on clocks `reset_remove(c1)` then `reset_remove(c2)` acts like `reset_remove(c3)`; its instances
`rrComp_merge`, `rrComp_idem` and `RRComp.swap` turn the one field `comp` into composition, idempotence and commutation. -/
structure RRLawful (ops : ValOps V VOp A) (W : V → Prop) : Prop where
  wf_rr : ∀ v c, W v → W (ops.resetRemove v c)
  comp : ∀ {c1 c2 c3 : VClock A}, VClock.RRComp c1 c2 c3 → ∀ v, W v →
    ops.resetRemove (ops.resetRemove v c1) c2 = ops.resetRemove v c3
  empty : ∀ v, W v → ops.resetRemove v ∅ = v

/-- The invariant of C18.  Key half: `Orswot.StateWF` of the keys view; value half: `W` of every stored value (preserved in
Proofs/MapWF.lean).  `W` is a parameter because values nest: for a Map of Maps it is `MapWF` again. -/
structure MapWF (W : V → Prop) (s : CMap K V A) : Prop where
  keys : Orswot.StateWF s.keysView
  vals : ∀ k en, s.entries.get? k = some en → W en.val

theorem ext {a b : CMap K V A} (h1 : a.clock = b.clock) (h2 : a.entries = b.entries) (h3 : a.deferred = b.deferred) :
    a = b := by
  cases a; cases b; congr

/-- a Map is its keys view together with its values -/
theorem ext_keysView {a b : CMap K V A} (hk : a.keysView = b.keysView)
    (hv : ∀ k ea eb, a.entries.get? k = some ea → b.entries.get? k = some eb → ea.val = eb.val) : a = b := by
  refine ext (congrArg Orswot.clock hk) (FMap.ext fun k => ?_) (congrArg Orswot.deferred hk)
  have hc : (a.entries.get? k).map (·.clock) = (b.entries.get? k).map (·.clock) := by
    rw [← get?_keysView, ← get?_keysView, hk]
  match ha : a.entries.get? k, hb : b.entries.get? k, hc with
  | none, none, _ => rfl
  | some ⟨_, _⟩, some ⟨_, _⟩, hc => cases hc; cases hv k _ _ ha hb; rfl

variable {ops : ValOps V VOp A} {W : V → Prop}

theorem val_of_get?_resetRemove {s : CMap K V A} {c : VClock A} {k : K} {en' : MapEntry V A}
    (h : (resetRemove ops s c).entries.get? k = some en') :
    ∃ en, s.entries.get? k = some en ∧ en'.val = ops.resetRemove en.val c := by
  rewrite [get?_resetRemove] at h
  obtain ⟨en, hm, he⟩ := Option.bind_eq_some_iff.mp h
  rewrite [rrEntry_eq] at he
  obtain ⟨_, _, rfl⟩ := Option.map_eq_some_iff.mp he
  exact ⟨en, hm, rfl⟩

/-- `Map::reset_remove` composes as it does on clocks: the shape `RRComp c1 c2 c3` lifts to whole maps over a lawful value type. -/
theorem resetRemove_comp (L : RRLawful ops W) {c1 c2 c3 : VClock A}
    (h : VClock.RRComp c1 c2 c3) {s : CMap K V A} (wf : MapWF W s) :
    resetRemove ops (resetRemove ops s c1) c2 = resetRemove ops s c3 := by
  refine ext_keysView ?_ fun k e1 e2 h1 h2 => ?_
  · simp only [resetRemove_sim]; exact Orswot.resetRemove_comp h wf.keys
  · obtain ⟨e, he, v1⟩ := val_of_get?_resetRemove h1
    obtain ⟨en, hm, v⟩ := val_of_get?_resetRemove he
    obtain ⟨_, hm', v2⟩ := val_of_get?_resetRemove h2
    cases hm.symm.trans hm'
    rw [v1, v, v2, L.comp h _ (wf.vals k en hm)]

theorem resetRemove_empty (L : RRLawful ops W) {s : CMap K V A} (wf : MapWF W s) :
    resetRemove ops s ∅ = s := by
  refine ext_keysView ?_ fun k e1 en h1 hm => ?_
  · rewrite [resetRemove_sim]; exact Orswot.resetRemove_empty wf.keys
  · obtain ⟨_, hm', v⟩ := val_of_get?_resetRemove h1
    cases hm.symm.trans hm'
    rw [v, L.empty _ (wf.vals k en hm)]

theorem mapWF_resetRemove (hrr : ∀ v c, W v → W (ops.resetRemove v c))
    {s : CMap K V A} (wf : MapWF W s) (c : VClock A) : MapWF W (resetRemove ops s c) := by
  refine ⟨?_, fun k en' h => ?_⟩
  · rewrite [resetRemove_sim]; exact Orswot.stateWF_resetRemove wf.keys c
  · obtain ⟨en, hm, v⟩ := val_of_get?_resetRemove h
    rewrite [v]; exact hrr _ c (wf.vals k en hm)

/-- a `Map` over a lawful value type is a lawful value type: the laws hold at every nesting depth -/
theorem rrLawful_map (L : RRLawful ops W) (toNat : A → Nat) :
    RRLawful (CMap.valOps (K := K) ops toNat) (MapWF W) where
  wf_rr := fun _ c wf => mapWF_resetRemove L.wf_rr wf c
  comp := fun h _ wf => resetRemove_comp L h wf
  empty := fun _ wf => resetRemove_empty L wf

end CMap
end Crdt
