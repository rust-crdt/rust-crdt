import CrdtModel.Spec.SysMap
import CrdtModel.Proofs.SysOrswot
import CrdtModel.Props.C07
set_option linter.unusedSectionVars false -- a few lemmas do not use the `[LinOrd _]` binders they get from the `variable` lines
/-!
# The Map system invariant

Generic part (every value type, every allowed closure): the key-level log is well-formed, every replica state and saved state
is `CMap.Reach`-derivable over the log, own updates are known, update dots are positive, unique and contiguous.
The dots are kept at Map level (`Dots upDot`: a dot names one update, key AND nested op); what only concerns the key level –
the newest counter (`isTop_clk`), the delivery discipline (`ok_cons_of_own`), what the API guarantees (`Sys.GenOk`) – is the
lemma of `Proofs/SysOrswot.lean` read through `keyLog` / `keyOp`.
Nested part (`Map<K, Orswot<M,A>, A>`, closures = the Orswot API): `NLogWF` of the log; in the causal op-only system every
replica state is `ReachC`-derivable.
-/
namespace Crdt.SysMap
open OrswotSpec CMap Crdt.Sys

section generic
variable {K V VOp A : Type} [LinOrd K] [LinOrd A] {ops : ValOps V VOp A} {Allowed : (V → AddCtx A → VOp) → Prop}

theorem keyLog_cons (op : MapOp K VOp A) (U : List (MapOp K VOp A)) : keyLog (op :: U) = keyOp op :: keyLog U := rfl

/-- an update consumes the dot its key-level add carries -/
abbrev upDot (op : MapOp K VOp A) : Option (Dot A) := addDot (keyOp op)

theorem reach_mono_cons {U L : List (MapOp K VOp A)} {s : CMap K V A} {op : MapOp K VOp A} (fr : Fresh upDot U op)
    (h : CMap.Reach ops U s L) : CMap.Reach ops (op :: U) s L := by
  induction h with
  | init => exact .init
  | apply _ hu ok ih => exact .apply ih (List.mem_cons_of_mem _ hu) (ok_mono_cons (fr.map (f := keyOp)) (List.mem_map_of_mem hu) ok)
  | merge _ _ ih1 ih2 => exact .merge ih1 ih2

/-- the system invariant; (a)–(d) are the items Props/SysMap.lean states for runs.  The `Held` part is (b): every replica state
and every saved state is derivable over the log with its knowledge -/
structure SysInv (ops : ValOps V VOp A) (c : Cfg K V VOp A) : Prop
    extends Held (CMap.Reach ops c.log) c.rep c.know c.snaps where
  /-- (a) key-remove contexts store no zero (with `dots.uniq`: the key-level log is well-formed) -/
  nz : ∀ cl ks, MapOp.rm cl ks ∈ c.log → cl.NoZero
  /-- (c), (d) an actor's replica knows all of that actor's updates; update counters are positive, name one update (key
  AND nested op) and are contiguous per actor -/
  dots : Dots upDot c.log c.know

theorem sysInv_init : SysInv ops (Cfg.init : Cfg K V VOp A) := ⟨.init .init, fun _ _ h => (by cases h), Dots.nil⟩

theorem mem_upDot {U : List (MapOp K VOp A)} {d : Dot A} : (∃ op ∈ U, upDot op = some d) ↔ ∃ k o, MapOp.up d k o ∈ U := by
  constructor
  · rintro ⟨op, ho, hd⟩
    cases op with
    | rm cl ks => cases hd
    | up d' k o => cases hd; exact ⟨k, o, ho⟩
  · rintro ⟨k, o, h⟩; exact ⟨_, h, rfl⟩

variable {c : Cfg K V VOp A} {i : A} {op : MapOp K VOp A}

namespace SysInv

theorem dots_unique (inv : SysInv ops c) : DotsUnique c.log :=
  fun d _ _ _ _ h h' => by cases inv.dots.uniq _ h _ h' d rfl rfl; exact ⟨rfl, rfl⟩

theorem wf (inv : SysInv ops c) : LogWF (keyLog c.log) := logWF_keyLog inv.dots_unique inv.nz

theorem view (inv : SysInv ops c) {s : CMap K V A} {L : List (MapOp K VOp A)} (v : c.View s L) : CMap.Reach ops c.log s L := by
  cases v with
  | rep i => exact inv.reach i
  | snap hp => exact inv.snaps _ hp

theorem own (inv : SysInv ops c) (i : A) (d : Dot A) (k : K) (o : VOp) (h : MapOp.up d k o ∈ c.log) (ha : d.actor = i) :
    MapOp.up d k o ∈ c.know i := ha ▸ inv.dots.own _ h d rfl

theorem rep (inv : SysInv ops c) (i : A) : OrswotSpec.Rep (keyLog (c.know i)) (c.rep i).keysView := (keys_rep inv.wf (inv.reach i)).2

/-- the newest counter `i` has used is the one its own replica knows -/
theorem top (inv : SysInv ops c) (i : A) : IsTop upDot c.log i (clk (keyLog (c.know i)) i) :=
  inv.dots.isTop (inv.reach i).sub (isTop_clk (keyLog (c.know i)) i).of_map

theorem derived_dot (inv : SysInv ops c) (i : A) :
    ((c.rep i).readCtx.deriveAddCtx i).dot = ⟨i, clk (keyLog (c.know i)) i + 1⟩ :=
  (C07.map_derived_dot_fresh inv.wf (inv.reach i) i (inv.own i)).1

end SysInv

/-- what the API guarantees about a generated op: an update carries the next dot of the issuing actor, a key-remove
context stores no zero – `Sys.GenOk` at key level.  By `rfl` it is `d = ⟨i, clk (keyLog (c.know i)) i + 1⟩` for `.up d k o` and
`cl.NoZero` for `.rm cl ks`; `sysInv_gen`, `sysInv_step` and `allC_step` use and supply it in these forms. -/
abbrev GenOk (c : Cfg K V VOp A) (i : A) (op : MapOp K VOp A) : Prop := Sys.GenOk (keyLog (c.know i)) i (keyOp op)

/-- the generated op may be applied at its origin: all earlier updates of `i` are known there -/
theorem genOk_ok (inv : SysInv ops c) (g : GenOk c i op) :
    OrswotSpec.Ok (keyLog (op :: c.log)) (keyLog (c.know i)) (keyOp op) := by
  refine ok_cons_of_own (fun d ms h ha => ?_) (genOk_dot g)
  obtain ⟨k, o, e, hin⟩ := mem_keyLog_add.mp h
  rewrite [e]; exact up_mem_keyLog (inv.own i d k o hin ha)

theorem sysInv_gen (inv : SysInv ops c) (g : GenOk c i op) : SysInv ops (c.gen ops i op) := by
  have old := inv.toHeld.mono fun _ _ => reach_mono_cons ((inv.top i).fresh (genOk_dot g))
  refine ⟨old.upd (.apply (old.reach i) List.mem_cons_self (genOk_ok inv g)), fun cl ks h => ?_,
    inv.dots.cons (inv.top i) (genOk_dot g)⟩
  rcases List.mem_cons.mp h with e | e
  · subst e; exact g
  · exact inv.nz cl ks e

theorem genOk_update (inv : SysInv ops c) (i : A) (k : K) (f : V → AddCtx A → VOp) :
    GenOk c i (CMap.update ops (c.rep i) k ((c.rep i).readCtx.deriveAddCtx i) f) := inv.derived_dot i

/-- entry clocks (the `get` remove context) store no zero; for an absent key the context is empty -/
theorem get_nz (inv : SysInv ops c) (i : A) (k : K) : ((c.rep i).get k).deriveRmCtx.clock.NoZero := by
  show ((c.rep i).get k).rmClock.NoZero
  rewrite [get_rmClock]
  exact Orswot.noZero_getD (inv.rep i).ewf k

theorem sysInv_deliver (inv : SysInv ops c) (i : A) (hu : op ∈ c.log)
    (ok : OrswotSpec.Ok (keyLog c.log) (keyLog (c.know i)) (keyOp op)) : SysInv ops (c.deliver ops i op) :=
  ⟨inv.toHeld.upd (.apply (inv.reach i) hu ok), inv.nz, inv.dots.upd fun _ h => List.mem_cons_of_mem _ h⟩

theorem sysInv_mergeIn (inv : SysInv ops c) (i : A) {s : CMap K V A} {L : List (MapOp K VOp A)}
    (h : CMap.Reach ops c.log s L) : SysInv ops (c.mergeIn ops i s L) :=
  ⟨inv.toHeld.upd (.merge (inv.reach i) h), inv.nz, inv.dots.upd fun _ h => List.mem_append_left _ h⟩

theorem sysInv_snapshot (inv : SysInv ops c) (i : A) : SysInv ops (c.snapshot i) :=
  ⟨inv.toHeld.snapshot i, inv.nz, inv.dots⟩

theorem sysInv_step {c' : Cfg K V VOp A} (inv : SysInv ops c) (st : Step ops Allowed c c') : SysInv ops c' := by
  cases st with
  | update i k f _ => exact sysInv_gen inv (genOk_update inv i k f)
  -- the add context of `get k'` is the map clock, like that of `read_ctx`: the same derived dot, by `rfl`
  | updateGet i k k' f _ => exact sysInv_gen inv (genOk_update inv i k f)
  | rmKey i k => exact sysInv_gen inv (get_nz inv i k)
  | rmKeyRead i k => exact sysInv_gen inv (inv.rep i).clock_nz
  | deliver i op hu ok => exact sysInv_deliver inv i hu ok
  | merge i j => exact sysInv_mergeIn inv i (inv.reach j)
  | snapshot i => exact sysInv_snapshot inv i
  | mergeSnap i n p hp => exact sysInv_mergeIn inv i (inv.snaps p (List.mem_of_getElem? hp))

theorem sysInv_run (r : Run ops Allowed c) : SysInv ops c := by
  induction r with
  | init => exact sysInv_init
  | step _ st ih => exact sysInv_step ih st

/-- what every op the API builds satisfies, every op of the log of a run satisfies -/
theorem run_log_forall {P : MapOp K VOp A → Prop} (hup : ∀ s k ctx f, Allowed f → P (CMap.update ops s k ctx f))
    (hrm : ∀ k ctx, P (CMap.rm k ctx)) (r : Run ops Allowed c) : ∀ op ∈ c.log, P op := by
  induction r with
  | init => intro o ho; cases ho
  | step _ st ih =>
    cases st with
    | update i k f hf => exact List.forall_mem_cons.mpr ⟨hup _ k _ f hf, ih⟩
    | updateGet i k k' f hf => exact List.forall_mem_cons.mpr ⟨hup _ k _ f hf, ih⟩
    | rmKey i k => exact List.forall_mem_cons.mpr ⟨hrm k _, ih⟩
    | rmKeyRead i k => exact List.forall_mem_cons.mpr ⟨hrm k _, ih⟩
    | deliver i op hu ok => exact ih
    | merge i j => exact ih
    | snapshot i => exact ih
    | mergeSnap i n p hp => exact ih

end generic

/-! ## nested part: `Map<K, Orswot<M,A>, A>` -/
section nested
variable {K M A : Type} [LinOrd K] [LinOrd M] [LinOrd A]

/-- the nested value the `update` closure receives is the one `get` returns (the default if the key is absent) -/
theorem update_arg (s : CMap K (Orswot M A) A) (k : K) :
    ((s.entries.get? k).map (·.val)).getD (Orswot.valOps (M := M) (A := A)).default = ((s.get k).val).getD Orswot.init := rfl

variable {c : NCfg K M A}

theorem sameDot_update (s : CMap K (Orswot M A) A) (k : K) (ctx : AddCtx A) {f : Orswot M A → AddCtx A → OrswotOp M A}
    (hf : NestedGen f) :
    ∀ d k' d' ms, CMap.update Orswot.valOps s k ctx f = MapOp.up d k' (OrswotOp.add d' ms) → d' = d := by
  intro d k' d' ms e
  cases hf with
  | add m => cases e; rfl
  | addAll ms' => cases e; rfl
  | rm m => cases e
  | rmRead m => cases e
  | rmAll ms' => cases e

/-- **`NLogWF` of the log of every run** (state merges and saved states included): a nested add carries the dot of its Map op,
counters are positive, a dot names one update, the key level is well-formed -/
theorem run_nlogWF (r : NRun c) : NLogWF c.log :=
  have inv := sysInv_run r
  -- a nested add carries the dot of its Map op: the API closures build no other
  have same := run_log_forall (P := fun op => ∀ d k d' ms, op = MapOp.up d k (OrswotOp.add d' ms) → d' = d)
    (fun s k _ _ hf => sameDot_update s k _ hf) (fun _ _ _ _ _ _ e => by cases e) r
  ⟨inv.wf, fun d k d' ms h => same _ h d k d' ms rfl, fun d _ _ h => inv.dots.pos _ h d rfl, inv.dots_unique⟩

/-! ## the causal, op-only system -/

/-- `StepC` has no `updateGet` and no `snapshot` step: `(get k').derive_add_ctx(i)` is `read_ctx().derive_add_ctx(i)` (both carry
the map clock), so `updateGet` generates the op `update` generates; a snapshot only feeds `mergeSnap`, and the op-only system has
no merges -/
theorem stepC_step {c' : NCfg K M A} (st : StepC c c') : Step Orswot.valOps NestedGen c c' := by
  cases st with
  | update i k f hf => exact .update c i k f hf
  | rmKey i k => exact .rmKey c i k
  | rmKeyRead i k => exact .rmKeyRead c i k
  | deliver i op hu ok _ => exact .deliver c i op hu ok

theorem runC_run (r : RunC c) : NRun c := by
  induction r with
  | init => exact .init
  | step _ st ih => exact .step ih (stepC_step st)

section
variable {U L : List (NOp K M A)} {s : CMap K (Orswot M A) A}

theorem reachC_mono_cons {op : NOp K M A} (fr : Fresh upDot U op) (h : ReachC U s L) : ReachC (op :: U) s L := by
  induction h with
  | init => exact .init
  | apply _ hu ok hctx ih =>
    exact .apply ih (List.mem_cons_of_mem _ hu) (ok_mono_cons (fr.map (f := keyOp)) (List.mem_map_of_mem hu) ok) hctx

theorem ctxOk_update (wf : NLogWF U) (h : ReachC U s L) (k : K) (ctx : AddCtx A)
    {f : Orswot M A → AddCtx A → OrswotOp M A} (hf : NestedGen f) :
    CtxOk L (CMap.update Orswot.valOps s k ctx f) := by
  have hclk : ∀ a, (nestedVal Orswot.valOps s k).clock.get a ≤ clk (keyLog L) a := fun a => by
    rewrite [← h.clock wf a]; exact (nested_inv wf h k).clk_le a
  cases hf with
  | add m => trivial
  | addAll ms => trivial
  | rm m =>
    show ∀ a, ((nestedVal Orswot.valOps s k).contains m).rmClock.get a ≤ clk (keyLog L) a
    intro a
    rewrite [Orswot.rmClock_contains, (nested_inv wf h k).wit m a]
    exact Nat.le_trans (E2_le_E L k m a) (E_le_clk _ k a)
  | rmRead m => exact hclk
  | rmAll ms => exact hclk

theorem ctxOk_rmKey (wf : NLogWF U) (h : ReachC U s L) (k : K) :
    CtxOk L (CMap.rm k (s.get k).deriveRmCtx : NOp K M A) := by
  show ∀ a, (s.get k).rmClock.get a ≤ clk (keyLog L) a
  intro a
  rewrite [← h.clock wf a]
  exact C07.map_rm_clock_le_add_clock wf.keys h.toReach k a

theorem ctxOk_rmKeyRead (wf : NLogWF U) (h : ReachC U s L) (k : K) :
    CtxOk L (CMap.rm k s.readCtx.deriveRmCtx : NOp K M A) := fun a => Nat.le_of_eq (h.clock wf a)
end

def AllC (c : NCfg K M A) : Prop := ∀ i, ReachC c.log (c.rep i) (c.know i)

theorem allC_gen (inv : SysInv Orswot.valOps c) (hC : AllC c) {i : A} {op : NOp K M A} (g : GenOk c i op)
    (hctx : CtxOk (c.know i) op) : AllC (c.gen Orswot.valOps i op) := by
  have fr := (inv.top i).fresh (genOk_dot g)
  exact forall_upd₂ (.apply (reachC_mono_cons fr (hC i)) List.mem_cons_self (genOk_ok inv g) hctx)
    fun j => reachC_mono_cons fr (hC j)

theorem allC_step {c' : NCfg K M A} (inv : SysInv Orswot.valOps c) (wf : NLogWF c.log) (hC : AllC c) (st : StepC c c') : AllC c' := by
  cases st with
  | update i k f hf => exact allC_gen inv hC (genOk_update inv i k f) (ctxOk_update wf (hC i) k _ hf)
  | rmKey i k => exact allC_gen inv hC (get_nz inv i k) (ctxOk_rmKey wf (hC i) k)
  | rmKeyRead i k => exact allC_gen inv hC (inv.rep i).clock_nz (ctxOk_rmKeyRead wf (hC i) k)
  | deliver i op hu ok hctx => exact forall_upd₂ (.apply (hC i) hu ok hctx) hC

theorem allC_run (r : RunC c) : AllC c := by
  induction r with
  | init => intro i; exact .init
  | step r' st ih => exact allC_step (sysInv_run (runC_run r')) (run_nlogWF (runC_run r')) ih st

end nested

end Crdt.SysMap
