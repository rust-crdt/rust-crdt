import CrdtModel.Model.GList
import CrdtModel.Proofs.Between
/-! `GList` (src/glist.rs).  The op that `insert`, `insert_after`, `insert_before` build for a member at a known index is
`between` of the two neighbours of one position; applying it inserts at that position, and it carries the new element in
every state.  `read` goes through `valuesOf`; the invariant `IdsNonEmpty` is what keeps it from panicking. -/
namespace Crdt
open LinOrd Identifier

variable {τ : Type} [LinOrd τ]

theorem valuesOf_eq_some_iff {ks : List (Identifier τ)} {vs : List τ} :
    valuesOf ks = some vs ↔ ks.map value = vs.map some := by
  induction ks generalizing vs with
  | nil => cases vs <;> simp [valuesOf]
  | cons a t ih =>
    rewrite [valuesOf]
    cases vs with
    | nil => cases a.value <;> cases valuesOf t <;> simp
    | cons v vs =>
      rewrite [List.map_cons, List.map_cons, List.cons.injEq, ← ih]
      cases a.value <;> cases valuesOf t <;> simp

/-- `read` panics exactly when the empty identifier is stored -/
theorem valuesOf_isSome_iff {ks : List (Identifier τ)} : (valuesOf ks).isSome ↔ ∀ i ∈ ks, i.path ≠ [] := by
  induction ks with
  | nil => simp [valuesOf]
  | cons a t ih =>
    rewrite [List.forall_mem_cons, ← ih, ← value_isSome_iff, valuesOf]
    cases a.value <;> cases valuesOf t <;> simp

theorem valuesOf_length : ∀ {ks : List (Identifier τ)} {vs : List τ}, valuesOf ks = some vs → vs.length = ks.length :=
  fun h => by simpa using (congrArg List.length (valuesOf_eq_some_iff.mp h)).symm

theorem valuesOf_insertIdx {n : Identifier τ} {x : τ} (hn : n.value = some x) {ks : List (Identifier τ)} {vs : List τ}
    (i : Nat) (h : valuesOf ks = some vs) : valuesOf (ks.insertIdx i n) = some (vs.insertIdx i x) := by
  rewrite [valuesOf_eq_some_iff] at h ⊢
  rw [map_insertIdx, map_insertIdx, h, hn]

namespace GList

theorem ids_sorted (g : GList τ) : g.ids.Pairwise (· < ·) := List.pairwise_map.mpr g.list.sorted

theorem len_eq (g : GList τ) : g.len = g.ids.length := (List.length_map _).symm

theorem insertAfter_eq (g : GList τ) {k : Nat} {p : Identifier τ} (hk : g.ids[k]? = some p) (x : τ) :
    g.insertAfter (some p) x = .insert (between (prevAt g.ids (k + 1)) g.ids[k + 1]? x) := by
  rewrite [prevAt, hk, ← SortedKeys.find?_gt_eq_next g.ids_sorted k p hk]; rfl

theorem insertBefore_eq (g : GList τ) {k : Nat} {h : Identifier τ} (hk : g.ids[k]? = some h) (x : τ) :
    g.insertBefore (some h) x = .insert (between (prevAt g.ids k) g.ids[k]? x) := by
  rewrite [hk, ← SortedKeys.getLast?_filter_lt_eq_prevAt g.ids_sorted k h hk]; rfl

theorem insert_eq (g : GList τ) {idx : Nat} (h : idx ≤ g.len) (x : τ) :
    g.insert idx x = some (.insert (between (prevAt g.ids idx) g.ids[idx]? x)) := by
  unfold GList.insert; rewrite [if_pos h]
  cases idx with
  | zero =>
    cases h0 : g.get 0 with
    | none => rewrite [show g.ids[0]? = none from h0]; rfl
    | some hd => exact congrArg some (insertBefore_eq g h0 x)
  | succ k =>
    have hk : g.ids[k]? = some _ := List.getElem?_eq_getElem (len_eq g ▸ h)
    simp only [show g.get k = _ from hk]
    exact congrArg some (insertAfter_eq g hk x)

theorem apply_between_at (g : GList τ) {i : Nat} (hi : i ≤ g.ids.length)
    (hne : g.ids[i]? = none → ∀ p, prevAt g.ids i = some p → p.path ≠ []) (x : τ) :
    (g.apply (.insert (between (prevAt g.ids i) g.ids[i]? x))).ids =
      g.ids.insertIdx i (between (prevAt g.ids i) g.ids[i]? x) := by
  obtain ⟨hlo, hhi⟩ := between_at g.ids_sorted i hne x
  show (AL.insert _ () g.list.l).map (·.1) = _
  rewrite [(AL.insert_at g.list.sorted i () (List.length_map _ ▸ hi) hlo hhi).1]
  exact map_insertIdx _ _ _ _

def IdsNonEmpty (g : GList τ) : Prop := ∀ i ∈ g.ids, i.path ≠ []

theorem idsNonEmpty_of_read {g : GList τ} {vs : List τ} (h : g.read = some vs) : g.IdsNonEmpty :=
  valuesOf_isSome_iff.mp (Option.isSome_iff_exists.mpr ⟨vs, h⟩)

/-! The bound and the neighbour looked up for it are never the same identifier, so `between` attaches the marker
(`between_value`) whatever the state and the bounds. -/

theorem insertAfter_value (g : GList τ) (low : Option (Identifier τ)) (x : τ) :
    (g.insertAfter low x).id.value = some x :=
  between_value _ _ x fun a e => by
    obtain ⟨rfl, e2⟩ := e
    exact lt_irrefl a (of_decide_eq_true (List.find?_some (p := fun i => decide (a < i)) e2))

theorem insertBefore_value (g : GList τ) (high : Option (Identifier τ)) (x : τ) :
    (g.insertBefore high x).id.value = some x :=
  between_value _ _ x fun a e => by
    obtain ⟨e1, rfl⟩ := e
    have hm := List.mem_of_getLast? (e1 : (g.ids.filter _).getLast? = some a)
    exact lt_irrefl a (of_decide_eq_true (List.mem_filter.mp hm).2)

theorem insert_value {g : GList τ} {idx : Nat} {x : τ} {op : GListOp τ} (h : g.insert idx x = some op) :
    op.id.value = some x := by
  by_cases hi : idx ≤ g.len
  · obtain rfl := Option.some.inj ((insert_eq g hi x).symm.trans h)
    exact value_between_at g.ids_sorted idx x
  · exact nomatch (if_neg hi).symm.trans h

end GList
end Crdt
