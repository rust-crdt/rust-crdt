import CrdtModel.Model.Orswot
import CrdtModel.Proofs.VClock
/-! The lemma library of Model/Orswot.lean.  A state is read through three views: `entryGet` (the witness counter of an
actor for a member), `DKey`/`DMem` (contexts and members of the deferred table) and the clock.  For `apply_rm` and for
re-running a list of removes (`foldRm`) the file says what each view shows afterwards; two tables with the same views
are equal (`entries_ext` for well-formed tables, `deferred_ext`).  `StateWF` is preserved: Proofs/OrswotWF.lean,
Proofs/ResetRemoveOrswot.lean. -/
namespace Crdt
namespace Orswot
variable {M A : Type} [LinOrd M] [LinOrd A]

/-- witness counter of actor `a` for member `m` (0 = none) -/
def entryGet (e : FMap M (VClock A)) (m : M) (a : A) : Nat :=
  match e.get? m with
  | some mc => mc.get a
  | none => 0

/-- no stored zero, no stored empty clock: `entryGet` cannot tell either from absence, and the crate stores neither
(anchors at `OrswotSpec.Rep`) -/
def EntriesWF (e : FMap M (VClock A)) : Prop :=
  ∀ m mc, e.get? m = some mc → mc.NoZero ∧ mc.isEmpty = false

theorem entryGet_of_some {e : FMap M (VClock A)} {m : M} {mc : VClock A} (h : e.get? m = some mc) (a : A) :
    entryGet e m a = mc.get a := by simp [entryGet, h]
theorem entryGet_of_none {e : FMap M (VClock A)} {m : M} (h : e.get? m = none) (a : A) :
    entryGet e m a = 0 := by simp [entryGet, h]
theorem entryGet_eq_getD (e : FMap M (VClock A)) (m : M) (a : A) : entryGet e m a = ((e.get? m).getD ∅).get a := by
  unfold entryGet; cases e.get? m <;> rfl
theorem entryGet_insert (e : FMap M (VClock A)) (m : M) (c : VClock A) (m' : M) (a : A) :
    entryGet (e.insert m c) m' a = if m' = m then c.get a else entryGet e m' a := by
  unfold entryGet; rewrite [FMap.get?_insert]
  by_cases h : m' = m
  · rw [if_pos h, if_pos h]
  · rw [if_neg h, if_neg h]
theorem entryGet_erase (e : FMap M (VClock A)) (m m' : M) (a : A) :
    entryGet (e.erase m) m' a = if m' = m then 0 else entryGet e m' a := by
  unfold entryGet; rewrite [FMap.get?_erase]
  by_cases h : m' = m
  · rw [if_pos h, if_pos h]
  · rw [if_neg h, if_neg h]

@[simp] theorem entryGet_empty (m : M) (a : A) : entryGet (∅ : FMap M (VClock A)) m a = 0 := entryGet_of_none rfl a
theorem entriesWF_empty : EntriesWF (∅ : FMap M (VClock A)) := by
  intro m mc h; simp at h

theorem entriesWF_erase {e : FMap M (VClock A)} (h : EntriesWF e) (m : M) : EntriesWF (e.erase m) :=
  FMap.forall_get?_erase h m

theorem entriesWF_insert {e : FMap M (VClock A)} (h : EntriesWF e) (m : M) {c : VClock A} (hc : c.NoZero)
    (hne : c.isEmpty = false) : EntriesWF (e.insert m c) :=
  FMap.forall_get?_insert_of ⟨hc, hne⟩ h

theorem noZero_getD {e : FMap M (VClock A)} (h : EntriesWF e) (m : M) : ((e.get? m).getD ∅).NoZero := by
  cases hm : e.get? m with
  | none => exact VClock.noZero_empty
  | some mc => exact (h m mc hm).1

theorem present_iff_entryGet {e : FMap M (VClock A)} (h : EntriesWF e) (m : M) :
    (e.get? m).isSome = true ↔ ∃ a, 0 < entryGet e m a := by
  cases hg : e.get? m with
  | none => simp [entryGet, hg]
  | some mc =>
    simp only [entryGet, hg, Option.isSome_some, true_iff]
    have w := h m mc hg
    apply Classical.byContradiction
    intro hn
    rewrite [(VClock.isEmpty_iff_get w.1).mpr fun a => Nat.eq_zero_of_not_pos fun ha => hn ⟨a, ha⟩] at w
    cases w.2

theorem entries_ext {e e' : FMap M (VClock A)} (h : EntriesWF e) (h' : EntriesWF e')
    (hg : ∀ m a, entryGet e m a = entryGet e' m a) : e = e' := by
  -- one inclusion, for any two such tables: a stored clock is not empty, so the other table has the key too
  suffices inc : ∀ {e e' : FMap M (VClock A)}, EntriesWF e → EntriesWF e' → (∀ m a, entryGet e m a = entryGet e' m a) →
      ∀ m c, e.get? m = some c → e'.get? m = some c from
    FMap.ext_some fun m c => ⟨inc h h' hg m c, inc h' h (fun m a => (hg m a).symm) m c⟩
  intro e e' h h' hg m c h1
  cases h2 : e'.get? m with
  | none =>
    obtain ⟨a, ha⟩ := (present_iff_entryGet h m).mp (by rewrite [h1]; rfl)
    rewrite [hg, entryGet_of_none h2] at ha; exact absurd ha (Nat.lt_irrefl 0)
  | some c' =>
    exact congrArg some (VClock.ext_get (h' m c' h2).1 (h m c h1).1 fun a => by
      rw [← entryGet_of_some h2, ← hg, entryGet_of_some h1])

/-- does remove-context `c` cover witness `e` of actor `a`?  As `VClock::reset_remove` (src/vclock.rs:85-91) it goes
through the STORED dots of `c`, so it differs from `c.get a ≥ e` where `c` stores nothing for `a` and `e = 0`; nothing
depends on that, the witness being 0 either way (`covers_Ev`). -/
def covers (c : VClock A) (a : A) (e : Nat) : Bool :=
  match c.dots.get? a with
  | some n => decide (n ≥ e)
  | none => false

theorem get_resetRemove_covers (s c : VClock A) (a : A) :
    (s.resetRemove c).get a = if covers c a (s.get a) then 0 else s.get a := by
  rewrite [VClock.get, VClock.get?_resetRemove]
  unfold covers
  cases c.dots.get? a with
  | none => rfl
  | some n => simp only [decide_eq_true_eq]; split <;> rfl

theorem entryGet_rmMember (c : VClock A) (e : FMap M (VClock A)) (m m' : M) (a : A) :
    entryGet (rmMember c e m) m' a =
      if m' = m ∧ covers c a (entryGet e m a) then 0 else entryGet e m' a := by
  unfold rmMember
  by_cases e1 : m' = m
  · subst e1
    cases h : e.get? m' with
    | none => simp [entryGet_of_none h]
    | some mc =>
      -- both branches show `(mc − c).get a`: an emptied clock reads 0 everywhere
      simp only [true_and, entryGet_of_some h, ← get_resetRemove_covers]
      by_cases hemp : (mc.resetRemove c).isEmpty = true
      · rw [if_pos hemp, entryGet_erase, if_pos rfl, VClock.get_of_isEmpty hemp]
      · rw [if_neg hemp, entryGet_insert, if_pos rfl]
  · rewrite [if_neg fun h => e1 h.1]
    cases e.get? m with
    | none => rfl
    | some mc =>
      dsimp only
      by_cases hemp : (mc.resetRemove c).isEmpty = true
      · rw [if_pos hemp, entryGet_erase, if_neg e1]
      · rw [if_neg hemp, entryGet_insert, if_neg e1]

theorem entriesWF_rmMember (c : VClock A) {e : FMap M (VClock A)} (h : EntriesWF e) (m : M) :
    EntriesWF (rmMember c e m) := by
  unfold rmMember
  cases hm : e.get? m with
  | none => exact h
  | some mc =>
    dsimp only
    split
    · exact entriesWF_erase h m
    · next hne => exact entriesWF_insert h m (VClock.noZero_resetRemove (h m mc hm).1 c) (by simpa using hne)

/-- effect of `apply_rm` on the witnesses: pointwise dot subtraction for the named members only -/
theorem entryGet_applyRm (s : Orswot M A) (ms : FSet M) (c : VClock A) (m : M) (a : A) :
    entryGet (applyRm s ms c).entries m a =
      if ms.contains m && covers c a (entryGet s.entries m a) then 0 else entryGet s.entries m a := by
  -- seen at member `m`, the loop over `ms` is its one step for `m` if `ms` has `m`, and nothing otherwise (`foldl_obs`)
  refine (FMap.foldl_obs (fun e (p : M × Unit) => rmMember c e p.1) (fun e m => entryGet e m a)
    (fun e k _ m ne => by simp [entryGet_rmMember, ne])
    (fun e e' k _ h => by simp [entryGet_rmMember, h]) ms s.entries m).trans ?_
  show _ = if (ms.get? m).isSome && _ then _ else _
  cases ms.get? m <;> simp [entryGet_rmMember]

theorem entriesWF_applyRm {s : Orswot M A} (h : EntriesWF s.entries) (ms : FSet M) (c : VClock A) :
    EntriesWF (applyRm s ms c).entries :=
  List.foldlRecOn ms.l _ h fun _ h p _ => entriesWF_rmMember c h p.1

@[simp] theorem clock_applyRm (s : Orswot M A) (ms : FSet M) (c : VClock A) : (applyRm s ms c).clock = s.clock := rfl

theorem contains_unionSet (a b : FSet M) (m : M) :
    (unionSet a b).contains m = (a.contains m || b.contains m) := by
  refine (FMap.foldl_obs (fun (acc : FSet M) (p : M × Unit) => acc.insert p.1 ()) (fun s m => s.contains m)
    (fun s k _ x e => by simp [FMap.contains, e]) (fun s s' k _ _ => by simp [FMap.contains]) b a m).trans ?_
  show _ = (_ || (b.get? m).isSome)
  cases b.get? m <;> simp [FMap.contains]

theorem contains_setOfList (l : List M) (m : M) : (setOfList l).contains m = true ↔ m ∈ l := by
  refine (List.foldl_or (fun (acc : FSet M) x => acc.insert x ()) (·.contains m = true) (m = ·)
    (fun acc x => by rw [FMap.contains_insert, or_comm]) l ∅).trans ?_
  simp [FMap.contains]

/-- does `apply_rm` keep the remove around? (`None | Some(Greater)` of `clock.partial_cmp(&self.clock)`) -/
def defers (c clock : VClock A) : Bool :=
  match c.partialCmp clock with
  | none | some .gt => true
  | _ => false

/-- under `NoZero`, a remove is deferred iff its context is not dominated by the replica clock.  With a stored zero
`partial_cmp` answers `Greater` or `None` for clocks that are pointwise `≤` (`Witness.zero_breaks_cmp`); this is where
the zero-freeness in `OrswotSpec.LogWF.rm_nz`, `OrswotSpec.Rep.clock_nz` and `Orswot.OpWF` comes from. -/
theorem defers_iff {c clock : VClock A} (hc : c.NoZero) (hk : clock.NoZero) : defers c clock = true ↔ ¬ c.le clock := by
  unfold defers
  rcases VClock.partialCmp_cases c clock with ⟨h, e⟩ | ⟨h, ne, l⟩ | ⟨h, ne, n, l⟩ | ⟨h, ne, n, l⟩ <;> rewrite [h]
  · subst e; simp [VClock.le_refl]
  · simp only [true_iff]; exact fun l' => ne (VClock.le_antisymm hc hk l' l)
  · simp [l]
  · simp [l]

theorem deferred_applyRm (s : Orswot M A) (ms : FSet M) (c : VClock A) :
    (applyRm s ms c).deferred = if defers c s.clock then deferInsert s.deferred c ms else s.deferred := by
  unfold applyRm defers deferInsert
  dsimp only
  cases c.partialCmp s.clock with
  | none => rfl
  | some o => cases o <;> rfl

theorem get?_deferInsert (d : FMap (VClock A) (FSet M)) (c c' : VClock A) (ms : FSet M) :
    (deferInsert d c ms).get? c' =
      if c' = c then some (match d.get? c with | some ex => unionSet ex ms | none => ms) else d.get? c' := by
  unfold deferInsert
  cases h : d.get? c with
  | none => exact FMap.get?_insert d c c' ms
  | some ex => exact FMap.get?_insert d c c' (unionSet ex ms)

def DKey (D : FMap (VClock A) (FSet M)) (k : VClock A) : Prop := (D.get? k).isSome = true
def DMem (D : FMap (VClock A) (FSet M)) (k : VClock A) (m : M) : Prop := ∃ T, D.get? k = some T ∧ T.contains m = true

theorem dKey_of_get? {D : FMap (VClock A) (FSet M)} {k : VClock A} {T : FSet M} (h : D.get? k = some T) : DKey D k :=
  Option.isSome_iff_exists.mpr ⟨T, h⟩

theorem DMem.key {D : FMap (VClock A) (FSet M)} {k : VClock A} {m : M} (h : DMem D k m) : DKey D k :=
  dKey_of_get? h.choose_spec.1

theorem dKey_iff_mem (D : FMap (VClock A) (FSet M)) (k : VClock A) : DKey D k ↔ ∃ p ∈ D.l, p.1 = k := by
  unfold DKey
  rewrite [Option.isSome_iff_exists]
  constructor
  · rintro ⟨T, hT⟩; exact ⟨(k, T), FMap.mem_l_iff.mpr hT, rfl⟩
  · rintro ⟨p, hp, rfl⟩; exact ⟨p.2, FMap.mem_l_iff.mp hp⟩

theorem dMem_iff_mem (D : FMap (VClock A) (FSet M)) (k : VClock A) (m : M) :
    DMem D k m ↔ ∃ p ∈ D.l, p.1 = k ∧ p.2.contains m = true := by
  constructor
  · rintro ⟨T, hT, hm⟩; exact ⟨(k, T), FMap.mem_l_iff.mpr hT, rfl, hm⟩
  · rintro ⟨p, hp, rfl, hm⟩; exact ⟨p.2, FMap.mem_l_iff.mp hp, hm⟩

theorem deferred_ext {D D' : FMap (VClock A) (FSet M)} (hk : ∀ k, DKey D k ↔ DKey D' k)
    (hm : ∀ k m, DMem D k m ↔ DMem D' k m) : D = D' := by
  apply FMap.ext
  intro c
  have a := hk c
  unfold DKey at a
  cases h1 : D.get? c with
  | none =>
    cases h2 : D'.get? c with
    | none => rfl
    | some S' => rewrite [h1, h2] at a; simp at a
  | some S =>
    cases h2 : D'.get? c with
    | none => rewrite [h1, h2] at a; simp at a
    | some S' =>
      congr 1
      apply FMap.fset_ext
      intro m
      have x := hm c m
      unfold DMem at x
      rewrite [h1, h2] at x
      exact Bool.eq_iff_iff.mpr (by simpa only [Option.some.injEq, exists_eq_left'] using x)

theorem ext {a b : Orswot M A} (h1 : a.clock = b.clock) (h2 : a.entries = b.entries) (h3 : a.deferred = b.deferred) :
    a = b := by
  cases a; cases b; congr

theorem dKey_empty (k : VClock A) : ¬ DKey (∅ : FMap (VClock A) (FSet M)) k := by simp [DKey]
theorem dMem_empty (k : VClock A) (m : M) : ¬ DMem (∅ : FMap (VClock A) (FSet M)) k m := by simp [DMem]

theorem dKey_deferInsert (D : FMap (VClock A) (FSet M)) (k' k : VClock A) (ms : FSet M) :
    DKey (deferInsert D k' ms) k ↔ (k = k' ∨ DKey D k) := by
  unfold DKey
  rewrite [get?_deferInsert]
  by_cases e : k = k' <;> simp [e]

theorem dMem_deferInsert (D : FMap (VClock A) (FSet M)) (k' k : VClock A) (ms : FSet M) (m : M) :
    DMem (deferInsert D k' ms) k m ↔ (DMem D k m ∨ (k = k' ∧ ms.contains m = true)) := by
  unfold DMem
  rewrite [get?_deferInsert]
  by_cases e : k = k'
  · subst e
    rewrite [if_pos rfl, and_iff_right rfl]
    cases h : D.get? k with
    | none => simp
    | some ex => simp [contains_unionSet]
  · rw [if_neg e, or_iff_left fun h => e h.1]

theorem dKey_applyRm (s : Orswot M A) (ms : FSet M) (c k : VClock A) :
    DKey (applyRm s ms c).deferred k ↔ (DKey s.deferred k ∨ (defers c s.clock = true ∧ k = c)) := by
  rewrite [deferred_applyRm]
  split
  · next h => rewrite [dKey_deferInsert]; simp only [h, true_and]; exact Or.comm
  · next h => exact ⟨.inl, fun x => x.elim id (fun y => absurd y.1 h)⟩

theorem dMem_applyRm (s : Orswot M A) (ms : FSet M) (c k : VClock A) (m : M) :
    DMem (applyRm s ms c).deferred k m ↔
      (DMem s.deferred k m ∨ (defers c s.clock = true ∧ k = c ∧ ms.contains m = true)) := by
  rewrite [deferred_applyRm]
  split
  · next h => rewrite [dMem_deferInsert]; simp only [h, true_and]
  · next h => exact ⟨.inl, fun x => x.elim id (fun y => absurd y.1 h)⟩

/-- re-running a list of removes: the loop of `apply_deferred`, and of `merge` over the other side's table -/
def foldRm (l : List (VClock A × FSet M)) (s : Orswot M A) : Orswot M A :=
  l.foldl (fun acc p => applyRm acc p.2 p.1) s

@[simp] theorem clock_foldRm (l : List (VClock A × FSet M)) (s : Orswot M A) : (foldRm l s).clock = s.clock :=
  List.foldlRecOn (motive := fun t : Orswot M A => t.clock = s.clock) l _ rfl fun _ h _ _ => h

theorem entriesWF_foldRm (l : List (VClock A × FSet M)) {s : Orswot M A} (h : EntriesWF s.entries) :
    EntriesWF (foldRm l s).entries :=
  List.foldlRecOn (motive := fun s : Orswot M A => EntriesWF s.entries) l _ h fun _ h p _ => entriesWF_applyRm h p.2 p.1

theorem dKey_foldRm (l : List (VClock A × FSet M)) (s : Orswot M A) (k : VClock A) :
    DKey (foldRm l s).deferred k ↔ (DKey s.deferred k ∨ (defers k s.clock = true ∧ ∃ p ∈ l, p.1 = k)) := by
  induction l generalizing s with
  | nil => simp [foldRm]
  | cons hd t ih =>
    simp only [foldRm, List.foldl_cons] at ih ⊢
    rewrite [ih, dKey_applyRm, clock_applyRm]
    simp only [List.mem_cons, or_and_right, exists_or, exists_eq_left, and_or_left, or_assoc]
    -- the two sides differ in how they name the head: `defers hd.1 s.clock ∧ k = hd.1` and `defers k s.clock ∧ hd.1 = k`
    refine or_congr_right (or_congr_left ⟨?_, ?_⟩)
    · rintro ⟨h, rfl⟩; exact ⟨h, rfl⟩
    · rintro ⟨h, rfl⟩; exact ⟨h, rfl⟩

theorem dMem_foldRm (l : List (VClock A × FSet M)) (s : Orswot M A) (k : VClock A) (m : M) :
    DMem (foldRm l s).deferred k m ↔
      (DMem s.deferred k m ∨ (defers k s.clock = true ∧ ∃ p ∈ l, p.1 = k ∧ p.2.contains m = true)) := by
  induction l generalizing s with
  | nil => simp [foldRm]
  | cons hd t ih =>
    simp only [foldRm, List.foldl_cons] at ih ⊢
    rewrite [ih, dMem_applyRm, clock_applyRm]
    simp only [List.mem_cons, or_and_right, exists_or, exists_eq_left, and_or_left, or_assoc]
    refine or_congr_right (or_congr_left ⟨?_, ?_⟩)
    · rintro ⟨h, rfl, c⟩; exact ⟨h, rfl, c⟩
    · rintro ⟨h, rfl, c⟩; exact ⟨h, rfl, c⟩

theorem dKey_run (D : FMap (VClock A) (FSet M)) (s : Orswot M A) (k : VClock A) :
    DKey (foldRm D.l s).deferred k ↔ (DKey s.deferred k ∨ (defers k s.clock = true ∧ DKey D k)) := by
  rw [dKey_foldRm, ← dKey_iff_mem]

theorem dMem_run (D : FMap (VClock A) (FSet M)) (s : Orswot M A) (k : VClock A) (m : M) :
    DMem (foldRm D.l s).deferred k m ↔ (DMem s.deferred k m ∨ (defers k s.clock = true ∧ DMem D k m)) := by
  rw [dMem_foldRm, ← dMem_iff_mem]

def DeferredWF (D : FMap (VClock A) (FSet M)) : Prop := ∀ k, DKey D k → k.NoZero ∧ k.isEmpty = false

/-- the structural invariant of every state built through the API -/
structure StateWF (s : Orswot M A) : Prop where
  clock_nz : s.clock.NoZero
  ewf : EntriesWF s.entries
  dwf : DeferredWF s.deferred

theorem deferredWF_empty : DeferredWF (∅ : FMap (VClock A) (FSet M)) := fun k h => absurd h (dKey_empty k)

theorem stateWF_init : StateWF (init : Orswot M A) := ⟨VClock.noZero_empty, entriesWF_empty, deferredWF_empty⟩

theorem mem_read_val_iff (s : Orswot M A) (m : M) : m ∈ s.read.val ↔ (s.entries.get? m).isSome = true := by
  rewrite [Option.isSome_iff_exists]
  simp only [← FMap.mem_l_iff, Orswot.read, List.mem_map, Prod.exists, exists_and_right, exists_eq_right]

theorem rmClock_contains (s : Orswot M A) (m : M) (a : A) : (s.contains m).rmClock.get a = entryGet s.entries m a :=
  (entryGet_eq_getD s.entries m a).symm

end Orswot
end Crdt
