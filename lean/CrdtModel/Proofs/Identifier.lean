import CrdtModel.Model.Identifier
/-! What `between` builds (src/identifier.rs:74-131).  For `lo < hi` the loop's result stays strictly between the two paths
(`loop_between`, induction along their common prefix) and always ends in the new marker (`loop_value`).  Hence the four
`between_*` facts that the `List`/`GList` proofs use and C14 states. -/
namespace Crdt

namespace Identifier
variable {τ : Type}

theorem value_isSome_iff {i : Identifier τ} : i.value.isSome ↔ i.path ≠ [] := by
  rw [value, Option.isSome_map, List.getLast?_isSome]

theorem value_eq_none_iff {i : Identifier τ} : i.value = none ↔ i = ⟨[]⟩ := by
  rewrite [value, Option.map_eq_none_iff, List.getLast?_eq_none_iff]
  exact ⟨ext, congrArg path⟩

theorem ne_nil_of_value {i : Identifier τ} {x : τ} (h : i.value = some x) : i.path ≠ [] :=
  value_isSome_iff.mp (h ▸ rfl)

theorem value_cons {a : Rat × τ} {p : List (Rat × τ)} {m : τ} (h : value ⟨p⟩ = some m) :
    value ⟨a :: p⟩ = some m := by
  cases p with
  | nil => cases h
  | cons b l => rwa [value, List.getLast?_cons_cons]

variable [LinOrd τ]

-- three facts of rational arithmetic from core's `Rat` lemmas (`grind` finds each, but its certificate is many times dearer to check)
theorem rat_lt_succ (r : Rat) : r < r + 1 := by
  have := (Rat.add_lt_add_left (c := r)).mpr (by decide : (0 : Rat) < 1)
  rwa [Rat.add_zero] at this

theorem rat_pred_lt (r : Rat) : r - 1 < r := Rat.sub_lt_iff.mpr (rat_lt_succ r)

/-- `a + a < a + b < b + b`, halved -/
theorem rat_mid {a b : Rat} (h : a < b) : a < (a + b) / 2 ∧ (a + b) / 2 < b := by
  have two : (0 : Rat) < 2 := by decide
  have dbl (x : Rat) : x * 2 = x + x := by rw [(by decide +kernel : (2 : Rat) = 1 + 1), Rat.mul_add, Rat.mul_one]
  rewrite [Rat.lt_div_iff two, Rat.div_lt_iff two, dbl, dbl]
  exact ⟨Rat.add_lt_add_left.mpr h, Rat.add_lt_add_right.mpr h⟩

/-- once the low path has been cleared, whatever the loop appends is below the rest of the high path -/
theorem cleared_lt (m : τ) : ∀ hs : List (Rat × τ), cmpPath (betweenLoop m [] hs) hs = .lt
  | [] => rfl
  | (hr, _) :: _ => cmpPath_cons_of_lt (Or.inl (rat_pred_lt hr))

theorem loop_between (m : τ) (lo hi : List (Rat × τ)) (h : cmpPath lo hi = .lt) :
    cmpPath lo (betweenLoop m lo hi) = .lt ∧ cmpPath (betweenLoop m lo hi) hi = .lt := by
  fun_induction betweenLoop m lo hi
  case case1 mid =>  -- equal rationals, the marker fits
    exact ⟨cmpPath_cons_of_lt (Or.inr ⟨rfl, mid.1⟩), cmpPath_cons_of_lt (Or.inr ⟨rfl, mid.2⟩)⟩
  case case2 ih =>  -- common node
    simp only [cmpPath_cons_self] at h ⊢
    exact ih h
  case case3 ne _ =>  -- equal rationals, markers differ: the low path is cleared
    -- no induction hypothesis: the recursive call has low path `[]`, below nothing; `cleared_lt` stands in for it
    rewrite [cmpPath_cons_self]
    rcases cmpPath_cons_lt.mp h with (h | ⟨_, h⟩) | ⟨e, _⟩
    · exact absurd h Rat.lt_irrefl
    · exact ⟨cmpPath_cons_of_lt (Or.inr ⟨rfl, h⟩), cleared_lt m _⟩
    · exact absurd (congrArg Prod.snd e) ne
  case case4 ne =>  -- rationals differ: midpoint
    rcases cmpPath_cons_lt.mp h with (h | ⟨e, _⟩) | ⟨e, _⟩
    · exact ⟨cmpPath_cons_of_lt (Or.inl (rat_mid h).1), cmpPath_cons_of_lt (Or.inl (rat_mid h).2)⟩
    · exact absurd e ne
    · exact absurd (congrArg Prod.fst e) ne
  case case5 | case7 =>  -- low path `[]` is the greatest path: excluded by `h` (it only arises by clearing)
    exact absurd h (cmpPath_nil_ne_lt _)
  case case6 =>  -- high path exhausted: `hi` is a proper prefix of `lo`
    exact ⟨cmpPath_cons_of_lt (Or.inl (rat_lt_succ _)), rfl⟩

theorem loop_value (m : τ) (lo hi : List (Rat × τ)) : value ⟨betweenLoop m lo hi⟩ = some m := by
  fun_induction betweenLoop m lo hi
  case case2 ih | case3 ih => exact value_cons ih
  all_goals rfl

theorem loop_ne_nil (m : τ) (lo hi : List (Rat × τ)) : betweenLoop m lo hi ≠ [] :=
  ne_nil_of_value (loop_value m lo hi)

theorem between_of_lt {lo hi : Identifier τ} (h : lo < hi) (m : τ) :
    between (some lo) (some hi) m = ⟨betweenLoop m lo.path hi.path⟩ := by
  simp [between, show cmp lo hi = .lt from h]

theorem between_of_gt {lo hi : Identifier τ} (h : hi < lo) (m : τ) :
    between (some lo) (some hi) m = ⟨betweenLoop m hi.path lo.path⟩ := by
  simp [between, show cmp lo hi = .gt from cmpPath_gt_iff.mpr h]

theorem between_strict {lo hi : Identifier τ} (h : lo < hi) (m : τ) :
    lo < between (some lo) (some hi) m ∧ between (some lo) (some hi) m < hi := by
  rewrite [between_of_lt h]
  exact loop_between m lo.path hi.path h

theorem between_after {lo : Identifier τ} (h : lo.path ≠ []) (m : τ) : lo < between (some lo) none m :=
  match lo, h with
  | ⟨(r, _) :: _⟩, _ => cmpPath_cons_of_lt (Or.inl (rat_lt_succ r))

theorem between_before (hi : Identifier τ) (m : τ) : between none (some hi) m < hi :=
  match hi with
  | ⟨[]⟩ => rfl
  | ⟨(r, _) :: _⟩ => cmpPath_cons_of_lt (Or.inl (rat_pred_lt r))

/-- with equal bounds `between` returns the bound and drops the marker (`C14.between_self`): hence `hne` -/
theorem between_value (low high : Option (Identifier τ)) (m : τ)
    (hne : ∀ a, ¬ (low = some a ∧ high = some a)) : (between low high m).value = some m := by
  cases low with
  | none => rfl
  | some lo =>
    cases high with
    | none => rfl
    | some hi =>
      rcases LinOrd.lt_tri lo hi with h | rfl | h
      · rewrite [between_of_lt h]; exact loop_value m _ _
      · exact absurd ⟨rfl, rfl⟩ (hne lo)
      · rewrite [between_of_gt h]; exact loop_value m _ _

end Identifier
end Crdt
