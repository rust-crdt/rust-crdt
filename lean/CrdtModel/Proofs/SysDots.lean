import CrdtModel.Spec.SysOrswot
set_option linter.unusedSectionVars false
/-! What the four system models (`Sys`, `SysMap`, `SysList`, `SysMerkle`) share.  Each keeps actor-indexed families `rep`,
`know` that a step changes at ONE actor through `upd` (Spec/SysOrswot.lean), and a log to which a step adds at most one
op.  `Dots` is the bookkeeping of the dots that ops consume at their authors (`Dots.cons` is generation, `Dots.upd` every
other step).  `Fresh` is what keeps the per-actor delivery disciplines, hence
`Reach`, monotone when a new op enters the log. -/
namespace Crdt.Sys
variable {A β γ ω : Type} [LinOrd A]

theorem forall_upd₂ {P : β → γ → Prop} {f : A → β} {g : A → γ} {i : A} {v : β} {w : γ} (hi : P v w)
    (h : ∀ j, P (f j) (g j)) : ∀ j, P (upd f i v j) (upd g i w j) := by
  intro j
  by_cases e : j = i
  · subst e; rewrite [upd_same, upd_same]; exact hi
  · rewrite [upd_other _ _ e, upd_other _ _ e]; exact h j

/-- `P` at every replica (`reach`, whatever `P` is) and at every saved state -/
structure Held (P : β → γ → Prop) (rep : A → β) (know : A → γ) (saved : List (β × γ)) : Prop where
  reach : ∀ i, P (rep i) (know i)
  snaps : ∀ p ∈ saved, P p.1 p.2

namespace Held
variable {P Q : β → γ → Prop} {rep : A → β} {know : A → γ} {saved : List (β × γ)}

theorem init {s : β} {K : γ} (h : P s K) : Held P (fun _ : A => s) (fun _ => K) [] := ⟨fun _ => h, fun _ hp => by cases hp⟩

theorem mono (h : Held P rep know saved) (imp : ∀ s K, P s K → Q s K) : Held Q rep know saved :=
  ⟨fun i => imp _ _ (h.reach i), fun p hp => imp _ _ (h.snaps p hp)⟩

theorem upd (h : Held P rep know saved) {i : A} {s : β} {K : γ} (hi : P s K) : Held P (Sys.upd rep i s) (Sys.upd know i K) saved :=
  ⟨forall_upd₂ hi h.reach, h.snaps⟩

theorem snapshot (h : Held P rep know saved) (i : A) : Held P rep know ((rep i, know i) :: saved) :=
  ⟨h.reach, List.forall_mem_cons.mpr ⟨h.reach i, h.snaps⟩⟩

end Held

/-- the dots of a log, `dot o` being the dot `o` consumed at its author (if any) -/
structure Dots (dot : ω → Option (Dot A)) (log : List ω) (know : A → List ω) : Prop where
  own : ∀ o ∈ log, ∀ d, dot o = some d → o ∈ know d.actor
  pos : ∀ o ∈ log, ∀ d, dot o = some d → 0 < d.counter
  uniq : ∀ o ∈ log, ∀ o' ∈ log, ∀ d, dot o = some d → dot o' = some d → o = o'
  /-- below a counter of the log, every positive counter of that actor is in the log (kept for `contig_iff`; the other
  three fields are preserved without it) -/
  contig : ∀ o ∈ log, ∀ d, dot o = some d → ∀ n, 0 < n → n ≤ d.counter → ∃ o' ∈ log, dot o' = some ⟨d.actor, n⟩

/-- `N` is the newest counter of actor `i` in the log (`0`: none yet) -/
structure IsTop (dot : ω → Option (Dot A)) (log : List ω) (i : A) (N : Nat) : Prop where
  le : ∀ o ∈ log, ∀ d, dot o = some d → d.actor = i → d.counter ≤ N
  attained : 0 < N → ∃ o ∈ log, dot o = some ⟨i, N⟩

/-- `op` is *fresh* for the log `U`: the dot it carries (if any) is newer than every dot of its actor in `U` -/
def Fresh (dot : ω → Option (Dot A)) (U : List ω) (op : ω) : Prop :=
  ∀ d, dot op = some d → ∀ o ∈ U, ∀ d', dot o = some d' → d'.actor = d.actor → d'.counter < d.counter

variable {dot : ω → Option (Dot A)} {log : List ω} {know : A → List ω} {i : A} {N N' : Nat}

theorem Fresh.map {ω' : Type} {dot : ω' → Option (Dot A)} {f : ω → ω'} {op : ω} (fr : Fresh (fun o => dot (f o)) log op) :
    Fresh dot (log.map f) (f op) := by
  intro d hd o' ho' d' hd' ha
  obtain ⟨o, ho, rfl⟩ := List.mem_map.mp ho'
  exact fr d hd o ho d' hd' ha

namespace IsTop

theorem fresh (top : IsTop dot log i N) {op : ω} (hop : ∀ d, dot op = some d → d = ⟨i, N + 1⟩) : Fresh dot log op := by
  intro d hd o ho d' hd' ha
  rewrite [hop d hd] at ha ⊢
  exact Nat.lt_succ_of_le (top.le o ho d' hd' ha)

theorem next_unused (top : IsTop dot log i N) : ∀ o ∈ log, dot o ≠ some ⟨i, N + 1⟩ :=
  fun o ho hd => Nat.not_succ_le_self N (top.le o ho _ hd rfl)

theorem of_map {ω' : Type} {dot : ω' → Option (Dot A)} {f : ω → ω'} (top : IsTop dot (log.map f) i N) :
    IsTop (fun o => dot (f o)) log i N := by
  refine ⟨fun o ho => top.le (f o) (List.mem_map_of_mem ho), fun h => ?_⟩
  obtain ⟨o', ho', hd⟩ := top.attained h
  obtain ⟨o, ho, rfl⟩ := List.mem_map.mp ho'
  exact ⟨o, ho, hd⟩

theorem le_of (h : IsTop dot log i N) (h' : IsTop dot log i N') : N ≤ N' := by
  rcases Nat.eq_zero_or_pos N with e | e
  · rewrite [e]; exact Nat.zero_le _
  · obtain ⟨o, ho, hd⟩ := h.attained e
    exact h'.le o ho _ hd rfl

theorem unique (h : IsTop dot log i N) (h' : IsTop dot log i N') : N = N' := Nat.le_antisymm (h.le_of h') (h'.le_of h)

end IsTop

namespace Dots

theorem nil : Dots dot [] know :=
  ⟨fun _ h => (by cases h), fun _ h => (by cases h), fun _ h => (by cases h), fun _ h => (by cases h)⟩

theorem upd (h : Dots dot log know) {K : List ω} (sub : ∀ o ∈ know i, o ∈ K) : Dots dot log (Sys.upd know i K) := by
  refine ⟨fun o ho d hd => ?_, h.pos, h.uniq, h.contig⟩
  by_cases e : d.actor = i
  · rewrite [e, upd_same]; exact sub o (e ▸ h.own o ho d hd)
  · rewrite [upd_other _ _ e]; exact h.own o ho d hd

theorem isTop (h : Dots dot log know) (sub : ∀ o ∈ know i, o ∈ log) (top : IsTop dot (know i) i N) : IsTop dot log i N :=
  ⟨fun o ho d hd ha => top.le o (ha ▸ h.own o ho d hd) d hd ha,
    fun hN => (top.attained hN).imp fun o ho => ⟨sub o ho.1, ho.2⟩⟩

theorem contig_iff (h : Dots dot log know) (top : IsTop dot log i N) (n : Nat) :
    (∃ o ∈ log, dot o = some ⟨i, n⟩) ↔ (0 < n ∧ n ≤ N) := by
  constructor
  · rintro ⟨o, ho, hd⟩
    exact ⟨h.pos o ho _ hd, top.le o ho _ hd rfl⟩
  · rintro ⟨hn, hle⟩
    obtain ⟨o, ho, hd⟩ := top.attained (Nat.lt_of_lt_of_le hn hle)
    exact h.contig o ho _ hd n hn hle

theorem cons (h : Dots dot log know) (top : IsTop dot log i N) {op : ω} (hop : ∀ d, dot op = some d → d = ⟨i, N + 1⟩) :
    Dots dot (op :: log) (Sys.upd know i (op :: know i)) := by
  have old {o} (p : ∃ o' ∈ log, dot o' = o) : ∃ o' ∈ op :: log, dot o' = o :=
    p.imp fun o' ho' => ⟨List.mem_cons_of_mem _ ho'.1, ho'.2⟩
  -- field by field: first the new op (whose dot, if it has one, is `⟨i, N + 1⟩`), then the old log
  refine ⟨?own, ?pos, ?uniq, ?contig⟩
  case own =>
    refine List.forall_mem_cons.mpr ⟨fun d hd => ?_, (h.upd fun _ => List.mem_cons_of_mem op).own⟩
    rewrite [hop d hd, upd_same]; exact List.mem_cons_self
  case pos =>
    refine List.forall_mem_cons.mpr ⟨fun d hd => ?_, h.pos⟩
    rewrite [hop d hd]; exact Nat.succ_pos _
  case uniq =>
    -- new and new; new and old, old and new (no old op carries the next dot); old and old
    refine List.forall_mem_cons.mpr ⟨List.forall_mem_cons.mpr ⟨fun _ _ _ => rfl, fun o' ho' d hd hd' => ?_⟩,
      fun o ho => List.forall_mem_cons.mpr ⟨fun d hd hd' => ?_, h.uniq o ho⟩⟩
    · rewrite [hop d hd] at hd'; exact absurd hd' (top.next_unused o' ho')
    · rewrite [hop d hd'] at hd; exact absurd hd (top.next_unused o ho)
  case contig =>
    refine List.forall_mem_cons.mpr ⟨fun d hd n hn hle => ?_, fun o ho d hd n hn hle => old (h.contig o ho d hd n hn hle)⟩
    obtain rfl := hop d hd
    by_cases hn' : n = N + 1
    · exact ⟨op, List.mem_cons_self, by rw [hn', hd]⟩
    · exact old ((h.contig_iff top n).mpr ⟨hn, Nat.le_of_lt_succ (Nat.lt_of_le_of_ne hle hn')⟩)

end Dots
end Crdt.Sys
