import CrdtModel.Model.MVReg
import CrdtModel.Proofs.VClock
import CrdtModel.Proofs.ListMax
/-! What the operations of `Model/MVReg.lean` compute, in terms of the strict pointwise order `VClock.slt` (Rust's `<` and
MVReg's `retain` for all clocks, Rust's `>` on zero-free ones).  On the states that occur – antichains of zero-free clocks
with one value per clock – `apply` and `merge` are both the *undominated union*: an entry of either side stays iff no
clock of the other side is strictly above it (`mem_apply`, `mem_merge`).  Last, what the hand-written `==` decides and when
it panics. -/
namespace Crdt
namespace MVReg
variable {ν α : Type} [LinOrd α]

theorem retained_iff (clock vc : VClock α) : retained clock vc = true ↔ vc ≠ clock ∧ ¬ vc.slt clock := by
  unfold retained VClock.slt
  rcases VClock.partialCmp_cases vc clock with ⟨h, e⟩ | ⟨h, ne, l⟩ | ⟨h, ne, n, l⟩ | ⟨h, ne, n, l⟩ <;> rewrite [h]
  · subst e; simp
  · simp [ne, l]
  · simp [n, l]
  · simp [ne, l]

theorem retained_self (c : VClock α) : retained c c = false :=
  Bool.eq_false_iff.mpr fun h => ((retained_iff c c).mp h).1 rfl

theorem apply_of_isEmpty (s : MVReg ν α) (op : MVOp ν α) (h : op.clock.isEmpty = true) : s.apply op = s := by
  simp [apply, h]

theorem apply_vals (s : MVReg ν α) {op : MVOp ν α} (hne : op.clock.isEmpty = false) :
    (s.apply op).vals = s.vals.filter (fun p => retained op.clock p.1) ++
      if (s.vals.filter (fun p => retained op.clock p.1)).any (fun p => p.1.gt op.clock) then [] else [(op.clock, op.val)] := by
  simp only [apply, hne, Bool.false_eq_true, if_false]
  cases List.any _ _ <;> simp

/-- Left: a stored entry not below the op; right: the op's entry, pushed iff its clock is non-empty and nothing stored is
above it (Rust's `>`, hence `NoZero`).  Without `one` the put replaces a stored entry that has its clock and another
value: the "TAI" remark in src/mvreg.rs:157-160, `Witness/MVRegMalformed.lean`. -/
theorem mem_apply (s : MVReg ν α) {op : MVOp ν α} (nz : op.clock.NoZero) (nzs : ∀ q ∈ s.vals, q.1.NoZero)
    (anti : ∀ p ∈ s.vals, ∀ q ∈ s.vals, ¬ p.1.slt q.1) (one : ∀ q ∈ s.vals, q.1 = op.clock → q = (op.clock, op.val))
    (p : VClock α × ν) :
    p ∈ (s.apply op).vals ↔ (p ∈ s.vals ∧ ¬ p.1.slt op.clock) ∨
      ((p = (op.clock, op.val) ∧ op.clock.isEmpty = false) ∧ ∀ q ∈ s.vals, ¬ p.1.slt q.1) := by
  cases hne : op.clock.isEmpty with
  | true =>
    -- `if clock.is_empty() { return; }`, and nothing is strictly below an empty clock
    rewrite [apply_of_isEmpty _ _ hne]
    simp only [Bool.true_eq_false, and_false, false_and, or_false]
    exact (and_iff_left fun l => l.2 (VClock.le_of_isEmpty hne _)).symm
  | false =>
    have key : ¬ (s.vals.filter (fun p => retained op.clock p.1)).any (fun p => p.1.gt op.clock) = true ↔
        ∀ q ∈ s.vals, ¬ op.clock.slt q.1 := by
      simp only [List.any_eq_true, List.mem_filter, retained_iff, not_exists, not_and, and_imp]
      refine forall₂_congr fun q hq => ?_
      rewrite [VClock.gt_iff_slt (nzs q hq) nz]
      -- a clock strictly above the op's is retained
      exact ⟨fun h l => h (VClock.ne_of_slt l).symm (VClock.slt_asymm l) l, fun h _ _ => h⟩
    rewrite [apply_vals s hne, List.mem_append, List.mem_filter, retained_iff, List.mem_ite_nil_left, List.mem_singleton, key,
      and_comm (b := p = _), and_iff_left rfl]
    -- the left side also asks `p.1 ≠ op.clock` of a stored entry
    refine ⟨Or.imp (fun h => ⟨h.1, h.2.2⟩) fun h => ⟨h.1, h.1 ▸ h.2⟩, ?_⟩
    rintro (⟨hp, hl⟩ | ⟨rfl, h⟩)
    · by_cases hc : p.1 = op.clock
      · -- a stored entry with the op's clock is the op's entry (dropped and pushed again), and nothing stored is above it
        exact Or.inr ⟨one p hp hc, hc ▸ anti p hp⟩
      · exact Or.inl ⟨hp, hc, hl⟩
    · exact Or.inr ⟨rfl, h⟩

theorem nodup_apply (s : MVReg ν α) (op : MVOp ν α) (h : s.vals.Nodup) : (s.apply op).vals.Nodup := by
  cases hne : op.clock.isEmpty with
  | true => rwa [apply_of_isEmpty _ _ hne]
  | false =>
    rewrite [apply_vals s hne]
    refine List.nodup_append.mpr ⟨h.filter _, by cases List.any _ _ <;> simp, fun a ha b hb e => ?_⟩
    -- `retain` has dropped every entry with the op's clock
    rewrite [List.mem_ite_nil_left, List.mem_singleton] at hb
    rewrite [e, hb.2, List.mem_filter, retained_self] at ha
    exact Bool.false_ne_true ha.2

theorem mem_mergeKeep (a b : List (VClock α × ν)) (p : VClock α × ν) :
    p ∈ mergeKeep a b ↔ p ∈ a ∧ ∀ q ∈ b, ¬ p.1.slt q.1 := by
  simp only [mergeKeep, List.mem_filter, List.filter_length_beq_zero, VClock.lt_eq_false_iff]

/-- Rust filters `self` against `other`, then `other` against what it KEPT of `self` (also dropping equal clocks): hence
`anti` of `o` only and `one` from `o` to `s`.  Only Rust's `<` occurs, so no `NoZero`. -/
theorem mem_merge {s o : MVReg ν α} (anti : ∀ p ∈ o.vals, ∀ q ∈ o.vals, ¬ p.1.slt q.1)
    (one : ∀ p ∈ o.vals, ∀ q ∈ s.vals, p.1 = q.1 → p = q) (p : VClock α × ν) :
    p ∈ (s.merge o).vals ↔
      (p ∈ s.vals ∧ ∀ q ∈ o.vals, ¬ p.1.slt q.1) ∨ (p ∈ o.vals ∧ ∀ q ∈ s.vals, ¬ p.1.slt q.1) := by
  simp only [merge, List.mem_append, List.mem_filter, List.filter_length_beq_zero, List.all_eq_true, VClock.lt_eq_false_iff,
    bne_iff_ne, and_assoc, mem_mergeKeep, Classical.or_iff_not_imp_left]
  -- the two sides differ only in what they ask of an entry `p` of `o` that is not a kept entry of `s` (`hin`)
  refine imp_congr_right fun hin => and_congr_right fun ho => ⟨?_, fun h1 => ⟨fun q hq => h1 q hq.1, ?_⟩⟩
  · -- Rust: no KEPT entry of `s` is above `p`.  Then none of `s` is: an entry `q` of `s` above `p` is kept, or lies
    -- below an entry of `o`, which would then be above `p`
    rintro ⟨h1, _⟩ q hq l
    by_cases hd : ∃ r ∈ o.vals, q.1.slt r.1
    · obtain ⟨r, hr, l'⟩ := hd
      exact anti p ho r hr (VClock.slt_trans l l')
    · exact h1 q ⟨hq, fun r hr l' => hd ⟨r, hr, l'⟩⟩ l
  · -- Rust also asks that no kept entry has the clock of `p`: such an entry would be `p` (`one`), which is not kept
    exact fun q hq e => hin (one p ho q hq.1 e ▸ hq)

theorem nodup_merge (s o : MVReg ν α) (hs : s.vals.Nodup) (ho : o.vals.Nodup) : (s.merge o).vals.Nodup := by
  refine List.nodup_append.mpr ⟨hs.filter _, (ho.filter _).filter _, fun a ha b hb e => ?_⟩
  -- the last filter drops what has the clock of a kept entry
  subst e
  simpa using List.all_eq_true.mp (List.mem_filter.mp hb).2 a ha

theorem get_foldl_merge (l : List (VClock α × ν)) (c : VClock α) (a : α) :
    (l.foldl (fun acc p => acc.merge p.1) c).get a = max (c.get a) (listMax (fun p => p.1.get a) l) := by
  induction l generalizing c with
  | nil => exact (Nat.max_zero _).symm
  | cons hd t ih => rw [List.foldl_cons, ih, VClock.get_merge, listMax_cons, Nat.max_assoc]

theorem get_clock (s : MVReg ν α) (a : α) : s.clock.get a = listMax (fun p => p.1.get a) s.vals := by
  simp [clock, get_foldl_merge]

theorem le_clock (s : MVReg ν α) {p : VClock α × ν} (hp : p ∈ s.vals) : p.1.le s.clock := fun x => by
  rewrite [get_clock]; exact le_listMax (fun p => p.1.get x) hp

theorem noZero_clock (s : MVReg ν α) : s.clock.NoZero :=
  List.foldlRecOn _ _ VClock.noZero_empty fun _ hc _ _ => VClock.noZero_merge hc _

-- by unfolding; a bare `rfl` makes the unifier unfold `VClock.apply` first
theorem writeBy_clock (s : MVReg ν α) (a : α) (v : ν) : (s.writeBy a v).clock = s.clock.apply (s.clock.inc a) := by
  simp only [writeBy, write, readCtx, ReadCtx.deriveAddCtx]
theorem writeBy_val (s : MVReg ν α) (a : α) (v : ν) : (s.writeBy a v).val = v := rfl

theorem get_writeBy (s : MVReg ν α) (a : α) (v : ν) (x : α) :
    (s.writeBy a v).clock.get x = if x = a then s.clock.get a + 1 else s.clock.get x := by
  rewrite [writeBy_clock]; exact VClock.get_apply_inc s.clock a x

theorem noZero_writeBy (s : MVReg ν α) (a : α) (v : ν) : (s.writeBy a v).clock.NoZero := by
  rewrite [writeBy_clock]; exact VClock.noZero_apply (noZero_clock s) _

theorem clock_slt_writeBy (s : MVReg ν α) (a : α) (v : ν) : s.clock.slt (s.writeBy a v).clock := by
  constructor
  · intro x; rewrite [get_writeBy]; split
    · next e => subst e; exact Nat.le_succ _
    · exact Nat.le_refl _
  · intro h
    have := h a
    rewrite [get_writeBy, if_pos rfl] at this
    exact Nat.not_succ_le_self _ this

theorem writeBy_nonempty (s : MVReg ν α) (a : α) (v : ν) : (s.writeBy a v).clock.isEmpty = false :=
  VClock.nonempty_of_not_le (clock_slt_writeBy s a v).2

theorem slt_writeBy (s : MVReg ν α) {p : VClock α × ν} (hp : p ∈ s.vals) (a : α) (v : ν) :
    p.1.slt (s.writeBy a v).clock :=
  VClock.slt_of_le_of_slt (le_clock s hp) (clock_slt_writeBy s a v)

section eq
variable [DecidableEq ν]

/-- one round of the loop: `num_found` is the number of occurrences of `d` in the right operand -/
theorem eqScan_cons (d : VClock α × ν) (t ys : List (VClock α × ν)) :
    eqScan (d :: t) ys = if ys.count d = 0 then some false else if ys.count d ≠ 1 then none else eqScan t ys := by
  rewrite [List.count_eq_length_filter]; rfl

theorem eqScan_of_nodup (xs : List (VClock α × ν)) {ys : List (VClock α × ν)} (h : ys.Nodup) :
    eqScan xs ys = some (xs.all (fun d => decide (d ∈ ys))) := by
  induction xs with
  | nil => rfl
  | cons d t ih =>
    rewrite [eqScan_cons, h.count, ih, List.all_cons]
    by_cases hd : d ∈ ys <;> simp [hd]

theorem eq_of_nodup {a b : MVReg ν α} (ha : a.vals.Nodup) (hb : b.vals.Nodup) :
    a.eq b = some (a.vals.all (fun d => decide (d ∈ b.vals)) && b.vals.all (fun d => decide (d ∈ a.vals))) := by
  rewrite [eq, eqScan_of_nodup _ hb, eqScan_of_nodup _ ha]
  cases a.vals.all _ <;> rfl

theorem eq_true_iff_perm {a b : MVReg ν α} (ha : a.vals.Nodup) (hb : b.vals.Nodup) :
    a.eq b = some true ↔ a.vals.Perm b.vals := by
  rewrite [eq_of_nodup ha hb, List.perm_ext_iff_of_nodup ha hb]
  simp only [Option.some.injEq, Bool.and_eq_true, List.all_eq_true, decide_eq_true_eq, iff_iff_implies_and_implies,
    forall_and]

theorem eqScan_none_of_dup {xs ys : List (VClock α × ν)} (sub : ∀ d ∈ xs, d ∈ ys)
    (dup : ∃ d ∈ xs, ys.count d ≠ 1) : eqScan xs ys = none := by
  induction xs with
  | nil => obtain ⟨d, hd, _⟩ := dup; cases hd
  | cons d t ih =>
    rewrite [eqScan_cons, if_neg (Nat.ne_of_gt (List.count_pos_iff.mpr (sub d List.mem_cons_self)))]
    by_cases h1 : ys.count d = 1
    · obtain ⟨x, hx, hc⟩ := dup
      rewrite [if_neg (not_not_intro h1)]
      exact ih (fun x hx => sub x (List.mem_cons_of_mem _ hx))
        ⟨x, (List.mem_cons.mp hx).resolve_left fun e => hc (e ▸ h1), hc⟩
    · exact if_pos h1

/-- `s == s` panics (`assert_eq!(num_found, 1)`) for every state that holds some entry twice -/
theorem eq_self_none_of_not_nodup {s : MVReg ν α} (h : ¬ s.vals.Nodup) : s.eq s = none := by
  have : ∃ d ∈ s.vals, s.vals.count d ≠ 1 := by
    rewrite [List.nodup_iff_count, Classical.not_forall] at h
    obtain ⟨d, hd⟩ := h
    have hd : 1 < s.vals.count d := Nat.lt_of_not_le hd
    exact ⟨d, List.count_pos_iff.mp (Nat.lt_trans Nat.zero_lt_one hd), Nat.ne_of_gt hd⟩
  simp [eq, eqScan_none_of_dup (fun d hd => hd) this]

end eq

end MVReg
end Crdt
