import CrdtModel.Proofs.OrswotBasic
/-! The triple loop of `Orswot::validate_merge` (src/orswot.rs:114-130) as a statement about the two entry tables (`Hit`)
and, on well-formed tables, about witnesses (`SharedDot`). -/
namespace Crdt
namespace Orswot
variable {M A : Type} [LinOrd M] [LinOrd A]

def Hit (s o : Orswot M A) : Prop :=
  ∃ m c m' c' a n, s.entries.get? m = some c ∧ o.entries.get? m' = some c' ∧ c.dots.get? a = some n ∧
    m' ≠ m ∧ c'.get a = n

theorem validateMerge_ok_iff (s o : Orswot M A) : s.validateMerge o = .ok () ↔ ¬ Hit s o := by
  -- the three nested loops (`findSome?` in Model/Orswot.lean) return no error iff no triple of their variables is a hit
  have key : ¬ Hit s o ↔ (s.entries.l.findSome? fun (m, c) => o.entries.l.findSome? fun (m', c') =>
      c.dots.l.findSome? fun (a, n) =>
        if m' ≠ m ∧ c'.get a = n then some (DoubleSpentDot.mk ⟨a, n⟩ m m') else none) = none := by
    -- one `findSome?_eq_none_iff` per loop
    constructor
    · intro h
      exact FMap.findSome?_eq_none_iff.mpr fun m c hm => FMap.findSome?_eq_none_iff.mpr fun m' c' hm' =>
        FMap.findSome?_eq_none_iff.mpr fun a n ha => if_neg fun hc => h ⟨m, c, m', c', a, n, hm, hm', ha, hc⟩
    · rintro h ⟨m, c, m', c', a, n, hm, hm', ha, hc⟩
      have h3 : (if m' ≠ m ∧ c'.get a = n then some (DoubleSpentDot.mk ⟨a, n⟩ m m') else none) = none :=
        FMap.findSome?_eq_none_iff.mp (FMap.findSome?_eq_none_iff.mp
          (FMap.findSome?_eq_none_iff.mp h m c hm) m' c' hm') a n ha
      rewrite [if_pos hc] at h3; cases h3
  rewrite [key]
  unfold validateMerge
  generalize List.findSome? _ s.entries.l = x
  cases x <;> simp

theorem validateMerge_error_iff (s o : Orswot M A) : (∃ e, s.validateMerge o = .error e) ↔ Hit s o := by
  rw [Except.exists_error_iff, validateMerge_ok_iff, Classical.not_not]

def SharedDot (s o : Orswot M A) : Prop :=
  ∃ m m' a, m ≠ m' ∧ entryGet s.entries m a ≠ 0 ∧ entryGet o.entries m' a = entryGet s.entries m a

theorem hit_of_sharedDot {s o : Orswot M A} (h : SharedDot s o) : Hit s o := by
  obtain ⟨m, m', a, hne, hz, he⟩ := h
  cases hm : s.entries.get? m with
  | none => rewrite [entryGet_of_none hm] at hz; exact absurd rfl hz
  | some c =>
    rewrite [entryGet_of_some hm] at hz he
    cases hm' : o.entries.get? m' with
    | none => rewrite [entryGet_of_none hm'] at he; exact absurd he.symm hz
    | some c' =>
      rewrite [entryGet_of_some hm'] at he
      exact ⟨m, c, m', c', a, c.get a, hm, hm', VClock.get?_of_get_ne_zero hz, fun e => hne e.symm, he⟩

/-- `EntriesWF` is asked of the LEFT state only: the loop runs through the stored dots of `s`, and a stored zero there
matches the `get = 0` of an actor absent from `o` (`C17.orswot_asymmetric_with_stored_zero`) -/
theorem sharedDot_of_hit {s o : Orswot M A} (wf : EntriesWF s.entries) (h : Hit s o) : SharedDot s o := by
  obtain ⟨m, c, m', c', a, n, hm, hm', ha, hne, hc⟩ := h
  have hn : n ≠ 0 := fun e => by subst e; exact (wf m c hm).1 a ha
  have hg : c.get a = n := VClock.get_eq_of_get? ha
  exact ⟨m, m', a, fun e => hne e.symm, by rewrite [entryGet_of_some hm, hg]; exact hn,
    by rw [entryGet_of_some hm, entryGet_of_some hm', hg, hc]⟩

theorem sharedDot_symm {s o : Orswot M A} (h : SharedDot s o) : SharedDot o s := by
  obtain ⟨m, m', a, hne, hz, he⟩ := h
  exact ⟨m', m, a, fun e => hne e.symm, by rewrite [he]; exact hz, he.symm⟩

theorem hit_symm {s o : Orswot M A} (ws : EntriesWF s.entries) (wo : EntriesWF o.entries) : Hit s o ↔ Hit o s :=
  ⟨fun h => hit_of_sharedDot (sharedDot_symm (sharedDot_of_hit ws h)),
    fun h => hit_of_sharedDot (sharedDot_symm (sharedDot_of_hit wo h))⟩

end Orswot
end Crdt
