import CrdtModel.Proofs.ResetRemoveMap
import CrdtModel.Proofs.OrswotWF
/-! The VALUE half of `CMap.MapWF` (defined, with `RRLawful`, in Proofs/ResetRemoveMap.lean): every value stored in a Map satisfies the value type's invariant `W`, provided the
value type's operations preserve `W` (`ValClosed`).  Proved block by block as preservation of `AllVals W` on the entries
table; the loops of the model are `foldl`s, so a body that preserves `AllVals W` does so under its loop (`List.foldlRecOn`).
That `apply` and `merge` preserve the KEY half, and the `ValClosed` instances, are in Props/C18MapReach.lean. -/
namespace Crdt

namespace MVReg
variable {ν α : Type} [LinOrd α]

/-- well-formed `Put`: the clock stores no zero.  (Non-emptiness is not asked: `apply` ignores a `Put` with an empty
clock, src/mvreg.rs:146-148.) -/
def OpWF (op : MVOp ν α) : Prop := op.clock.NoZero

end MVReg

namespace CMap
variable {K V VOp A : Type} [LinOrd K] [LinOrd A]

/-- the predicate of the field `MapWF.vals`, on a bare entries table (the loops of the model run on tables, not on Maps) -/
def AllVals (W : V → Prop) (e : FMap K (MapEntry V A)) : Prop := ∀ k en, e.get? k = some en → W en.val

/-- the value type's operations preserve its invariant `W` (ops restricted by `OpW`).  `OpW` is there only because ops carry
clocks that may store a zero (the clock of an MVReg `Put`, the context of an Orswot remove, recursively `MapOpW`); the restriction
is needed: `C18.ReachExample.nested_op_wf_needed` (Props/C18MapReach.lean).  (`RRLawful`: the LAWS of `reset_remove` on `W`-values;
this record: CLOSURE of `W`; `rr` = `wf_rr`.) -/
structure ValClosed (ops : ValOps V VOp A) (W : V → Prop) (OpW : VOp → Prop) : Prop where
  default : W ops.default
  apply : ∀ v o, W v → OpW o → W (ops.apply v o)
  merge : ∀ v v', W v → W v' → W (ops.merge v v')
  rr : ∀ v c, W v → W (ops.resetRemove v c)

def MapOpW (OpW : VOp → Prop) : MapOp K VOp A → Prop
  | .rm c _ => c.NoZero
  | .up _ _ o => OpW o

omit [LinOrd K] in
theorem opWF_keyOp {OpW : VOp → Prop} {op : MapOp K VOp A} (h : MapOpW OpW op) : Orswot.OpWF (keyOp op) := by
  cases op with
  | rm c ks => exact h
  | up d k o => trivial

variable {ops : ValOps V VOp A} {W : V → Prop} {OpW : VOp → Prop}

theorem allVals_empty : AllVals W (∅ : FMap K (MapEntry V A)) :=
  fun _ _ h => nomatch h

section closed
variable (C : ValClosed ops W OpW)
include C

theorem allVals_rmKey (c : VClock A) {e : FMap K (MapEntry V A)}
    (h : AllVals W e) (k : K) : AllVals W (rmKey ops c e k) := by
  unfold rmKey
  cases hk : e.get? k with
  | none => exact h
  | some en =>
    simp only
    split
    · exact FMap.forall_get?_erase h k
    · exact FMap.forall_get?_insert_of (C.rr en.val c (h k en hk)) h

theorem allVals_applyKeysetRm {s : CMap K V A} (h : AllVals W s.entries)
    (ks : FSet K) (c : VClock A) : AllVals W (applyKeysetRm ops s ks c).entries :=
  List.foldlRecOn (motive := AllVals W) ks.l _ h fun _ he p _ => allVals_rmKey C c he p.1

theorem allVals_foldKeysetRm (l : List (VClock A × FSet K))
    {s : CMap K V A} (h : AllVals W s.entries) :
    AllVals W (l.foldl (fun acc p => applyKeysetRm ops acc p.2 p.1) s).entries :=
  List.foldlRecOn (motive := fun s : CMap K V A => AllVals W s.entries) l _ h fun _ hs p _ => allVals_applyKeysetRm C hs p.2 p.1

theorem allVals_applyDeferred {s : CMap K V A} (h : AllVals W s.entries) :
    AllVals W (applyDeferred ops s).entries :=
  allVals_foldKeysetRm C s.deferred.l (s := { s with deferred := ∅ }) h

theorem allVals_apply {s : CMap K V A} (h : AllVals W s.entries) {op : MapOp K VOp A}
    (hop : ∀ d k o, op = .up d k o → OpW o) : AllVals W (apply ops s op).entries := by
  cases op with
  | rm c ks => exact allVals_applyKeysetRm C h _ c
  | up d k o =>
    simp only [apply]
    split
    · exact h
    · refine allVals_applyDeferred C (FMap.forall_get?_insert_of (C.apply _ _ ?_ (hop d k o rfl)) h)
      cases hk : s.entries.get? k with
      | none => exact C.default
      | some en => exact h k en hk

theorem allVals_mergeKeep {s : CMap K V A} (h : AllVals W s.entries)
    (o : CMap K V A) : AllVals W (mergeKeep ops s o) := by
  intro k en' hg
  rewrite [mergeKeep, FMap.get?_filterMap] at hg
  obtain ⟨en, hk, he⟩ := Option.bind_eq_some_iff.mp hg
  have hv := h k en hk
  by_cases hc : o.entries.contains k = true
  · rewrite [if_pos hc] at he
    cases he; exact hv
  · rewrite [if_neg hc] at he
    by_cases hge : o.clock.ge en.clock = true
    · rewrite [if_pos hge] at he; cases he
    · rewrite [if_neg hge] at he
      cases he; exact C.rr _ _ hv

theorem allVals_mergeStep (s o : CMap K V A) {e : FMap K (MapEntry V A)} (h : AllVals W e)
    (k : K) {en : MapEntry V A} (hv : W en.val) : AllVals W (mergeStep ops s o e k en) := by
  unfold mergeStep
  cases hk : e.get? k with
  | none =>
    simp only
    split
    · exact h
    · exact FMap.forall_get?_insert_of (C.rr _ _ hv) h
  | some ours =>
    simp only
    split
    · exact FMap.forall_get?_erase h k
    · exact FMap.forall_get?_insert_of (C.rr _ _ (C.merge _ _ (h k ours hk) hv)) h

theorem allVals_merge {s o : CMap K V A} (hs : AllVals W s.entries) (ho : AllVals W o.entries) :
    AllVals W (merge ops s o).entries := by
  refine allVals_applyDeferred C (allVals_foldKeysetRm C _ ?_)
  exact List.foldlRecOn (motive := AllVals W) o.entries.l _ (allVals_mergeKeep C hs o) fun _ he p hp =>
    allVals_mergeStep C s o he p.1 (ho p.1 p.2 (FMap.mem_l_iff.mp hp))

end closed

theorem keysView_init : (init : CMap K V A).keysView = Orswot.init := by
  simp only [keysView, init, Orswot.init, FMap.mapVal_empty]

theorem mapWF_init : MapWF W (init : CMap K V A) :=
  ⟨by rewrite [keysView_init]; exact Orswot.stateWF_init, allVals_empty⟩

theorem deferred_nz_of_wf {s : CMap K V A} (wf : MapWF W s) : ∀ p ∈ s.deferred.l, p.1.NoZero :=
  fun _ hp => (Orswot.deferredWF_mem wf.keys.dwf hp).1

end CMap
end Crdt
