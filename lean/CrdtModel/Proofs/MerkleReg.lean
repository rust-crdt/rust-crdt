import CrdtModel.Spec.MerkleReg
/-!
# `MerkleReg` (C15): from the model to the representation system `merkleSys`

The model runs `apply` on a work list (`applyAll`); it satisfies the recursion of the Rust code, and `merge` is one run of
the list.  `WorkInv K s L` is what holds of `(s, L)` while `applyAll` builds the state for the knowledge `K`: every step keeps
it, and with nothing pending it says `MRep K s`.  `merkleSys` packs the resulting `MRep` lemmas up for `Props/C15.lean`.
-/
namespace Crdt
open LinOrd

namespace FMap
variable {κ : Type} [LinOrd κ] {ν μ : Type}

/-- `for c in children { roots.remove(c) }` (src/merkle_reg.rs:218-220), seen at one key -/
theorem get?_foldl_erase (c : FMap κ μ) (m : FMap κ ν) (x : κ) :
    (c.l.foldl (fun r p => r.erase p.1) m).get? x = if c.contains x = true then none else m.get? x := by
  -- `foldl_obs` asks of a step that it leaves the other keys alone and that what it shows at its own key does not depend on the map
  refine (foldl_obs (fun (r : FMap κ ν) (p : κ × μ) => r.erase p.1) (fun r a => r.get? a)
    (fun r k _ a ne => by rw [get?_erase, if_neg ne]) (fun r r' k _ _ => by rw [get?_erase, get?_erase, if_pos rfl, if_pos rfl])
    c m x).trans ?_
  rewrite [contains]
  cases c.get? x with
  | some v => exact (get?_erase m x x).trans (if_pos rfl)
  | none => rfl

/-- a key that is not there is erased for free, so the loop is a plain recursion -/
theorem removeAll_cons (k : κ) (ks : List κ) (m : FMap κ ν) :
    removeAll (k :: ks) m = ((removeAll ks (m.erase k)).1, (m.get? k).toList ++ (removeAll ks (m.erase k)).2) := by
  simp only [removeAll]
  split
  · next v hv => rewrite [hv]; rfl
  · next hn => rewrite [erase_of_get?_none hn, hn]; rfl

theorem get?_removeAll_fst (ks : List κ) (m : FMap κ ν) (x : κ) :
    (removeAll ks m).1.get? x = if x ∈ ks then none else m.get? x := by
  induction ks generalizing m with
  | nil => simp [removeAll]
  | cons k ks ih =>
    rewrite [removeAll_cons, ih, get?_erase]
    by_cases e : x = k <;> simp [e]

theorem mem_removeAll_snd {ks : List κ} {m : FMap κ ν} {v : ν} :
    v ∈ (removeAll ks m).2 ↔ ∃ k, k ∈ ks ∧ m.get? k = some v := by
  induction ks generalizing m with
  | nil => simp [removeAll]
  | cons k ks ih =>
    simp only [removeAll_cons, List.mem_append, Option.mem_toList, ih, get?_erase, List.mem_cons,
      Option.ite_none_left_eq_some]
    constructor
    · rintro (hg | ⟨k', hk', -, hg⟩)
      · exact ⟨k, Or.inl rfl, hg⟩
      · exact ⟨k', Or.inr hk', hg⟩
    · rintro ⟨k', hk', hg⟩
      by_cases e : k' = k
      · exact Or.inl (e ▸ hg)
      · exact Or.inr ⟨k', hk'.resolve_left e, e, hg⟩

theorem mem_filter_keys (p : κ × ν → Bool) (m : FMap κ ν) (x : κ) :
    x ∈ (m.l.filter p).map (·.1) ↔ ∃ w, m.get? x = some w ∧ p (x, w) = true := by
  simp only [List.mem_map, List.mem_filter, ← mem_l_iff]
  constructor
  · rintro ⟨⟨_, w⟩, h, rfl⟩
    exact ⟨w, h⟩
  · rintro ⟨w, h⟩
    exact ⟨(x, w), h, rfl⟩

theorem get?_removeAll_filter (p : κ × ν → Bool) (m : FMap κ ν) (x : κ) (v : ν) :
    (removeAll ((m.l.filter p).map (·.1)) m).1.get? x = some v ↔ (m.get? x = some v ∧ p (x, v) = false) := by
  rewrite [get?_removeAll_fst, Option.ite_none_left_eq_some, mem_filter_keys]
  constructor
  · rintro ⟨h, hg⟩
    exact ⟨hg, Bool.eq_false_iff.mpr fun hp => h ⟨v, hg, hp⟩⟩
  · -- `x` is removed only if its value satisfies `p`
    rintro ⟨hg, hf⟩
    refine ⟨?_, hg⟩
    rintro ⟨w, hw, hp⟩
    cases hw.symm.trans hg
    cases hp.symm.trans hf

theorem mem_removeAll_filter (p : κ × ν → Bool) (m : FMap κ ν) (v : ν) :
    v ∈ (removeAll ((m.l.filter p).map (·.1)) m).2 ↔ ∃ x, m.get? x = some v ∧ p (x, v) = true := by
  simp only [mem_removeAll_snd, mem_filter_keys]
  constructor
  · rintro ⟨x, ⟨w, hw, hp⟩, hg⟩
    cases hw.symm.trans hg
    exact ⟨x, hg, hp⟩
  · rintro ⟨x, hg, hp⟩
    exact ⟨x, ⟨v, hg, hp⟩, hg⟩

end FMap

namespace MerkleReg
variable {H : Type} [LinOrd H] {τ : Type}

theorem allHashesSeen_iff {s : MerkleReg H τ} {hs : FSet H} :
    s.allHashesSeen hs = true ↔ ∀ c, hs.contains c = true → s.dag.contains c = true := by
  simp only [allHashesSeen, List.all_eq_true]
  exact FMap.forall_mem_fst (P := fun c => s.dag.contains c = true)

theorem allHashesSeen_eq_false_iff {s : MerkleReg H τ} {hs : FSet H} :
    s.allHashesSeen hs = false ↔ ∃ c, hs.contains c = true ∧ s.dag.contains c = false := by
  rewrite [← Bool.not_eq_true, allHashesSeen_iff]
  simp only [Classical.not_forall, exists_prop, Bool.not_eq_true]

theorem read_get?_eq_some {s : MerkleReg H τ} {x : H} {n : Node H τ} :
    s.read.get? x = some n ↔ (s.roots.contains x = true ∧ s.dag.get? x = some n) := by
  simp only [read, FMap.get?_filterMap, FMap.contains]
  cases s.roots.get? x <;> simp

theorem hashes_contains (c : FMap H (Node H τ)) (x : H) : (hashes c).contains x = c.contains x := by
  simp only [hashes, FMap.contains, FMap.get?_filterMap]
  cases c.get? x <;> rfl

theorem node_eq_some_iff {s : MerkleReg H τ} {x : H} {n : Node H τ} :
    s.node x = some n ↔ s.dag.get? x = some n ∨ (s.dag.get? x = none ∧ s.orphans.get? x = some n) := by
  rewrite [node]
  cases s.dag.get? x <;> simp [Option.orElse]

theorem validateOp_ok_iff (s : MerkleReg H τ) (op : Node H τ) :
    s.validateOp op = .ok () ↔ ∀ c, op.children.contains c = true → s.dag.contains c = true := by
  rewrite [← FMap.forall_mem_fst (P := fun c => s.dag.contains c = true)]
  unfold validateOp
  split
  · next p hp =>
    exact ⟨nofun, fun h => absurd (h p (List.mem_of_find?_eq_some hp)) (by simpa using List.find?_some hp)⟩
  · next hn => exact ⟨fun _ p hp => by simpa using List.find?_eq_none.mp hn p hp, fun _ => rfl⟩

theorem validateOp_missing_iff (s : MerkleReg H τ) (op : Node H τ) (h : H) :
    s.validateOp op = .error (.missingChild h) ↔
      (op.children.contains h = true ∧ s.dag.contains h = false ∧
        ∀ c, op.children.contains c = true → c < h → s.dag.contains c = true) := by
  have first : ∀ h, s.validateOp op = .error (.missingChild h) → (op.children.contains h = true ∧
      s.dag.contains h = false ∧ ∀ c, op.children.contains c = true → c < h → s.dag.contains c = true) := by
    intro h e
    unfold validateOp at e
    split at e
    · next p hp =>
      cases e
      -- the entries in front of the hit are in the dag, the ones behind it have larger keys
      obtain ⟨hpp, as, bs, hl, hfirst⟩ := List.find?_eq_some_iff_append.mp hp
      refine ⟨FMap.contains_iff_mem.mpr ⟨p.2, List.mem_of_find?_eq_some hp⟩, by simpa using hpp, fun c hc lt => ?_⟩
      obtain ⟨v, hv⟩ := FMap.contains_iff_mem.mp hc
      have srt := op.children.sorted
      rewrite [hl] at hv srt
      rcases List.mem_append.mp hv with h1 | h1
      · simpa using hfirst _ h1
      · rcases List.mem_cons.mp h1 with e | h1
        · subst e; exact absurd lt (lt_irrefl _)
        · exact absurd lt (lt_asymm ((List.pairwise_cons.mp (List.pairwise_append.mp srt).2.1).1 _ h1))
    · cases e
  refine ⟨first h, ?_⟩
  rintro ⟨hc, hd, hlt⟩
  -- `h` is missing, so some first missing child `h'` is reported; of two least missing children neither is below the other
  cases e : s.validateOp op with
  | ok => rewrite [(validateOp_ok_iff s op).mp e h hc] at hd; cases hd
  | error err =>
    obtain ⟨h'⟩ := err
    obtain ⟨hc', hd', hlt'⟩ := first h' e
    rw [not_lt_antisymm (fun lt => Bool.eq_false_iff.mp hd' (hlt h' hc' lt)) (fun lt => Bool.eq_false_iff.mp hd (hlt' h hc lt))]

section insertVisible
variable (s : MerkleReg H τ) (h : H) (nd : Node H τ)

@[simp] theorem insertVisible_dag : (s.insertVisible h nd).1.dag = s.dag.insert h nd := rfl

@[simp] theorem insertVisible_roots :
    (s.insertVisible h nd).1.roots = (nd.children.l.foldl (fun r c => r.erase c.1) s.roots).insert h () := rfl

theorem insertVisible_roots_contains (x : H) :
    (s.insertVisible h nd).1.roots.contains x = true ↔
      x = h ∨ (s.roots.contains x = true ∧ nd.children.contains x = false) := by
  rewrite [insertVisible_roots, FMap.contains_insert]
  rewrite [FMap.contains, FMap.get?_foldl_erase]
  cases nd.children.contains x <;> simp [FMap.contains]

/-- src/merkle_reg.rs:226-246: readiness is tested once `nd` is in the dag -/
theorem insertVisible_orphans_get? (x : H) (n : Node H τ) :
    (s.insertVisible h nd).1.orphans.get? x = some n ↔
      (s.orphans.get? x = some n ∧ (s.insertVisible h nd).1.allHashesSeen n.children = false) :=
  FMap.get?_removeAll_filter _ s.orphans x n

theorem mem_insertVisible_snd {n : Node H τ} :
    n ∈ (s.insertVisible h nd).2 ↔
      ∃ x, s.orphans.get? x = some n ∧ (s.insertVisible h nd).1.allHashesSeen n.children = true :=
  FMap.mem_removeAll_filter _ s.orphans n

end insertVisible

variable (hash : Node H τ → H)

/-- new work goes to the front of the list, so a prefix is finished before the rest is looked at -/
theorem applyAll_append (s : MerkleReg H τ) (l₁ l₂ : List (Node H τ)) :
    applyAll hash s (l₁ ++ l₂) = applyAll hash (applyAll hash s l₁) l₂ := by
  fun_induction applyAll hash s l₁ with
  | case1 s => simp
  | case2 s nd rest h hk ih =>
    rw [List.cons_append, applyAll.eq_2, if_pos hk, ih]
  | case3 s nd rest h hk hs r ih =>
    rewrite [List.cons_append, applyAll.eq_2, if_neg hk, if_pos hs]
    simp only
    rewrite [← List.append_assoc]
    exact ih
  | case4 s nd rest h hk hs ih =>
    rw [List.cons_append, applyAll.eq_2, if_neg hk, if_neg hs, ih]

theorem applyAll_eq_foldl (s : MerkleReg H τ) (l : List (Node H τ)) :
    applyAll hash s l = l.foldl (fun acc n => apply hash acc n) s := by
  induction l generalizing s with
  | nil => simp [applyAll]
  | cons n t ih => exact (applyAll_append hash s [n] t).trans (ih _)

theorem merge_eq_applyAll (s o : MerkleReg H τ) :
    merge hash s o = applyAll hash s (o.dag.l.map (·.2) ++ o.orphans.l.map (·.2)) := by
  rewrite [applyAll_append, applyAll_eq_foldl, applyAll_eq_foldl, List.foldl_map, List.foldl_map]
  rfl

/-- the model's `apply` satisfies the recursive equation of the Rust code (src/merkle_reg.rs:209-254) -/
theorem apply_unfold (s : MerkleReg H τ) (nd : Node H τ) :
    apply hash s nd =
      if (s.dag.contains (hash nd) || s.orphans.contains (hash nd)) = true then s
      else if s.allHashesSeen nd.children = true then
        (s.insertVisible (hash nd) nd).2.foldl (fun acc n => apply hash acc n) (s.insertVisible (hash nd) nd).1
      else ⟨s.roots, s.dag, s.orphans.insert (hash nd) nd⟩ := by
  -- one round on the work list `[nd]`: nothing is left to do in the outer branches, the freed orphans in the middle one
  show applyAll hash s [nd] = _
  rewrite [applyAll.eq_2, applyAll.eq_1, applyAll.eq_1]
  simp only [List.append_nil, applyAll_eq_foldl]

end MerkleReg

/-! ## visibility -/
namespace MerkleSpec
variable {H : Type} [LinOrd H] {τ : Type} (hash : Node H τ → H)
variable {K : List (Node H τ)}

section
variable {K' : List (Node H τ)} {n : Node H τ}

theorem VisH.mono (sub : ∀ n, n ∈ K → n ∈ K') {h : H} (v : VisH hash K h) : VisH hash K' h := by
  induction v with
  | mk hn _ ih => exact VisH.mk (sub _ hn) ih

theorem Visible.mono (sub : ∀ n, n ∈ K → n ∈ K') (v : Visible hash K n) : Visible hash K' n :=
  ⟨sub _ v.1, fun c hc => (v.2 c hc).mono hash sub⟩

theorem Visible.visH (v : Visible hash K n) : VisH hash K (hash n) := VisH.mk v.1 v.2

/-- children are hashes, so the least fixed point is taken over hashes; this is the way back to nodes -/
theorem visH_iff {h : H} : VisH hash K h ↔ ∃ n, Visible hash K n ∧ hash n = h := by
  constructor
  · rintro ⟨hn, hc⟩
    exact ⟨_, ⟨hn, hc⟩, rfl⟩
  · rintro ⟨_, v, rfl⟩
    exact v.visH hash

theorem visible_congr (e : ∀ n, n ∈ K ↔ n ∈ K') (n : Node H τ) : Visible hash K n ↔ Visible hash K' n :=
  ⟨Visible.mono hash (fun n => (e n).mp), Visible.mono hash (fun n => (e n).mpr)⟩

theorem visible_closed {n : Node H τ} (hn : n ∈ K)
    (hc : ∀ c, n.children.contains c = true → ∃ m, Visible hash K m ∧ hash m = c) : Visible hash K n :=
  ⟨hn, fun c h => (visH_iff hash).mpr (hc c h)⟩

theorem visible_least (S : Node H τ → Prop)
    (closed : ∀ n, n ∈ K → (∀ c, n.children.contains c = true → ∃ m, S m ∧ hash m = c) → S n)
    {n : Node H τ} (v : Visible hash K n) : S n := by
  have key : ∀ h, VisH hash K h → ∃ m, S m ∧ hash m = h := by
    intro h vh
    induction vh with
    | mk hn _ ih => exact ⟨_, closed _ hn ih, rfl⟩
  exact closed n v.1 (fun c hc => key c (v.2 c hc))

theorem visible_iff :
    Visible hash K n ↔ n ∈ K ∧ ∀ c, n.children.contains c = true → ∃ m, Visible hash K m ∧ hash m = c :=
  ⟨fun v => ⟨v.1, fun c hc => (visH_iff hash).mp (v.2 c hc)⟩, fun h => visible_closed hash h.1 h.2⟩

theorem visible_of_lists_heads (sub : ∀ n, n ∈ K → n ∈ K') {nd : Node H τ} (hn : nd ∈ K')
    (kids : ∀ c, nd.children.contains c = true → ∃ m, hash m = c ∧ Head hash K m) : Visible hash K' nd :=
  ⟨hn, fun c hc => by
    obtain ⟨m, e, hm⟩ := kids c hc
    exact e ▸ (hm.1.mono hash sub).visH hash⟩

end

section
variable {hash} {n : Node H τ}

/-- no node of `K` lists `hash nd`, so adding `nd` makes nothing else visible (the idea of `C15.write_resolves`) -/
theorem visH_cons_unlisted {nd : Node H τ} (un : ∀ m, m ∈ K → m.children.contains (hash nd) = false) {h : H}
    (v : VisH hash (nd :: K) h) : h = hash nd ∨ VisH hash K h := by
  induction v with
  | @mk n hn hc ih =>
    rcases List.mem_cons.mp hn with e | hn
    · subst e; exact Or.inl rfl
    · refine Or.inr (VisH.mk hn (fun c hcc => ?_))
      rcases ih c hcc with e | v
      · subst e; rewrite [un n hn] at hcc; cases hcc
      · exact v

theorem visible_cons_unlisted {nd : Node H τ} (un : ∀ m, m ∈ K → m.children.contains (hash nd) = false)
    {m : Node H τ} (hm : m ∈ K) (v : Visible hash (nd :: K) m) : Visible hash K m := by
  refine ⟨hm, fun c hc => ?_⟩
  rcases visH_cons_unlisted un (v.2 c hc) with e | v
  · subst e; rewrite [un m hm] at hc; cases hc
  · exact v

theorem filter_sublist_of_imp {α : Type} {p q : α → Bool} (h : ∀ a, p a = true → q a = true) (l : List α) :
    (l.filter p).Sublist (l.filter q) := by
  -- filtering by `p` is filtering by `q`, then by `p`
  have pq : ∀ a ∈ l, (p a && q a) = p a := fun a _ => by
    cases hp : p a
    · rfl
    · exact h a hp
  rewrite [← List.filter_congr pq, ← List.filter_filter]
  exact List.filter_sublist

theorem kidsIn_iff {V : List (Node H τ)} :
    kidsIn hash V n = true ↔ ∀ c, n.children.contains c = true → ∃ m, m ∈ V ∧ hash m = c := by
  simp only [kidsIn, List.all_eq_true, List.any_eq_true, decide_eq_true_eq]
  exact FMap.forall_mem_fst (P := fun c => ∃ m, m ∈ V ∧ hash m = c)

theorem kidsIn_mono {V V' : List (Node H τ)} (sub : ∀ m, m ∈ V → m ∈ V')
    (h : kidsIn hash V n = true) : kidsIn hash V' n = true :=
  kidsIn_iff.mpr fun c hc => (kidsIn_iff.mp h c hc).imp fun m hm => ⟨sub m hm.1, hm.2⟩

theorem mem_visIter_succ {i : Nat} :
    n ∈ visIter hash K (i + 1) ↔ n ∈ K ∧ kidsIn hash (visIter hash K i) n = true := by
  simp only [visIter, visStep, List.mem_filter]

theorem visIter_sound (i : Nat) (h : n ∈ visIter hash K i) : Visible hash K n := by
  induction i generalizing n with
  | zero => cases h
  | succ i ih =>
    obtain ⟨hn, hk⟩ := mem_visIter_succ.mp h
    refine visible_closed hash hn (fun c hc => ?_)
    obtain ⟨m, hm, e⟩ := kidsIn_iff.mp hk c hc
    exact ⟨m, ih hm, e⟩

theorem visIter_sublist_succ (i : Nat) : (visIter hash K i).Sublist (visIter hash K (i + 1)) := by
  induction i with
  | zero => exact List.nil_sublist _
  | succ i ih => exact filter_sublist_of_imp (fun _ => kidsIn_mono ih.subset) K

/-- each round is a sublist of the next, so a round that does not make the list longer changes nothing, nor does any
later one: round `i + 1` repeats round `i`, or more than `i` nodes are in -/
theorem visIter_grow (i : Nat) :
    visIter hash K (i + 1) = visIter hash K i ∨ i < (visIter hash K (i + 1)).length := by
  have step : ∀ i, i ≤ (visIter hash K i).length →
      (visIter hash K (i + 1) = visIter hash K i ∨ i < (visIter hash K (i + 1)).length) := fun i le => by
    by_cases h : (visIter hash K (i + 1)).length ≤ (visIter hash K i).length
    · exact Or.inl ((visIter_sublist_succ i).eq_of_length_le h).symm
    · exact Or.inr (Nat.lt_of_le_of_lt le (Nat.lt_of_not_le h))
  induction i with
  | zero => exact step 0 (Nat.zero_le _)
  | succ i ih => exact ih.elim (fun fx => Or.inl (congrArg (visStep hash K) fx)) (step (i + 1))

/-- `|K|` rounds reach a fixed point: a sublist of `K` has no more than `|K|` nodes -/
theorem visStep_visibleList : visStep hash K (visibleList hash K) = visibleList hash K :=
  (visIter_grow K.length).resolve_right (Nat.not_lt.mpr (List.length_filter_le _ _))

/-- sound round by round; complete by `visible_least`, closed because it is a fixed point -/
theorem mem_visibleList : n ∈ visibleList hash K ↔ Visible hash K n :=
  ⟨visIter_sound _, visible_least hash (· ∈ visibleList hash K) fun n hn hc => by
    rewrite [← visStep_visibleList]; exact List.mem_filter.mpr ⟨hn, kidsIn_iff.mpr hc⟩⟩

end

/-! ## the work-list invariant -/

def InjOn (K : List (Node H τ)) : Prop := ∀ a, a ∈ K → ∀ b, b ∈ K → hash a = hash b → a = b

/-- the invariant `apply` re-establishes: no orphan has all its children in the dag -/
def NoReadyOrphan (s : MerkleReg H τ) : Prop :=
  ∀ h n, s.orphans.get? h = some n → s.allHashesSeen n.children = false

/-- `NoReadyOrphan`, the other half of the invariant, does not depend on `K` and is carried separately.
That `hash` does not collide on `K` is needed by one step only, `step_known` (the node found under `hash nd` must be `nd`
for `nd` to count as covered); `step_insert` and `step_orphan` put `nd` itself under a hash that was free. -/
structure WorkInv (K : List (Node H τ)) (s : MerkleReg H τ) (L : List (Node H τ)) : Prop where
  dag_vis : ∀ h n, s.dag.get? h = some n → hash n = h ∧ Visible hash K n
  dag_closed : ∀ h n, s.dag.get? h = some n → ∀ c, n.children.contains c = true → s.dag.contains c = true
  orph : ∀ h n, s.orphans.get? h = some n → hash n = h ∧ n ∈ K
  /-- the dag nodes that no dag node lists: about `s` alone, not `K` -/
  roots : ∀ h, s.roots.contains h = true ↔
    (s.dag.contains h = true ∧ ∀ h' m, s.dag.get? h' = some m → m.children.contains h = false)
  pend : ∀ n, n ∈ L → n ∈ K
  /-- every node of `K` is pending, in the dag, or an orphan – under its own hash -/
  cover : ∀ n, n ∈ K → n ∈ L ∨ s.dag.get? (hash n) = some n ∨ s.orphans.get? (hash n) = some n

variable {hash}

section
variable {s : MerkleReg H τ}

theorem get?_none_of_not_known {h : H} (hk : ¬ (s.dag.contains h || s.orphans.contains h) = true) :
    s.dag.get? h = none ∧ s.orphans.get? h = none := by
  simp only [Bool.or_eq_true, not_or, Bool.not_eq_true] at hk
  exact ⟨FMap.contains_eq_false_iff.mp hk.1, FMap.contains_eq_false_iff.mp hk.2⟩

theorem NoReadyOrphan.insertVisible (s : MerkleReg H τ) (h : H) (nd : Node H τ) : NoReadyOrphan (s.insertVisible h nd).1 :=
  fun x n hg => ((s.insertVisible_orphans_get? h nd x n).mp hg).2

theorem NoReadyOrphan.orphan {nd : Node H τ} (nro : NoReadyOrphan s) {h : H} (hs : ¬ s.allHashesSeen nd.children = true) :
    NoReadyOrphan ⟨s.roots, s.dag, s.orphans.insert h nd⟩ :=
  FMap.forall_get?_insert_of (Bool.eq_false_iff.mpr hs) nro

theorem NoReadyOrphan.applyAll (L : List (Node H τ)) (nro : NoReadyOrphan s) :
    NoReadyOrphan (MerkleReg.applyAll hash s L) := by
  fun_induction MerkleReg.applyAll hash s L with
  | case1 s => exact nro
  | case2 s nd rest h hk ih => exact ih nro
  | case3 s nd rest h hk hs r ih => exact ih (NoReadyOrphan.insertVisible s _ nd)
  | case4 s nd rest h hk hs ih => exact ih (nro.orphan hs)

theorem roots_iff_head (hd : ∀ h n, s.dag.get? h = some n ↔ (hash n = h ∧ Visible hash K n)) (h : H) :
    (s.dag.contains h = true ∧ ∀ h' m, s.dag.get? h' = some m → m.children.contains h = false) ↔
      ∃ n, hash n = h ∧ Head hash K n := by
  constructor
  · rintro ⟨hc, hno⟩
    obtain ⟨n, hn⟩ := FMap.contains_iff.mp hc
    obtain ⟨e, v⟩ := (hd h n).mp hn
    exact ⟨n, e, v, fun m vm => e ▸ hno _ m ((hd _ m).mpr ⟨rfl, vm⟩)⟩
  · rintro ⟨n, e, v, hno⟩
    subst e
    exact ⟨FMap.contains_of_get? ((hd _ n).mpr ⟨rfl, v⟩), fun h' m hm => hno m ((hd h' m).mp hm).2⟩

theorem MRep.dag_contains_iff (r : MRep hash K s) (x : H) : s.dag.contains x = true ↔ VisH hash K x := by
  rewrite [FMap.contains_iff, visH_iff]
  constructor
  · rintro ⟨n, hn⟩
    exact ⟨n, ((r.dag x n).mp hn).2, ((r.dag x n).mp hn).1⟩
  · rintro ⟨n, v, e⟩
    exact ⟨n, (r.dag x n).mpr ⟨e, v⟩⟩

/-- an orphan with all its children in the dag would be visible -/
theorem MRep.noReadyOrphan (r : MRep hash K s) : NoReadyOrphan s := fun h n hg =>
  have ho := (r.orphans h n).mp hg
  Bool.eq_false_iff.mpr fun hs => ho.2.2
    ⟨ho.2.1, fun ch hc => (r.dag_contains_iff ch).mp (MerkleReg.allHashesSeen_iff.mp hs ch hc)⟩

theorem InjOn.mono {K' : List (Node H τ)} (inj : InjOn hash K') (sub : ∀ n, n ∈ K → n ∈ K') : InjOn hash K :=
  fun a ha b hb e => inj a (sub a ha) b (sub b hb) e

theorem InjOn.tail {x : Node H τ} (inj : InjOn hash (x :: K)) : InjOn hash K :=
  inj.mono fun _ => List.mem_cons_of_mem _

/-- pairwise different hashes: decidable on a concrete list -/
theorem InjOn.of_pairwise (h : K.Pairwise (fun a b => hash a ≠ hash b)) : InjOn hash K :=
  -- `hash a = hash b → a = b` holds of a node and itself, and vacuously of two nodes of the list either way round
  fun _ ha _ hb => List.Pairwise.forall_of_forall_of_flip (R := fun a b => hash a = hash b → a = b) (fun _ _ _ => rfl)
    (h.imp fun ne e => absurd e ne) (h.imp fun ne e => absurd e.symm ne) ha hb

theorem MRep.dag_none_of_orphan {n : Node H τ} (inj : InjOn hash K) (r : MRep hash K s) {h : H}
    (ho : s.orphans.get? h = some n) : s.dag.get? h = none :=
  Option.eq_none_iff_forall_ne_some.mpr fun m hd => by
    have hn := (r.orphans h n).mp ho
    have hm := (r.dag h m).mp hd
    exact hn.2.2 (inj m hm.2.1 n hn.2.1 (hm.1.trans hn.1.symm) ▸ hm.2)

theorem WorkInv.step_known {nd : Node H τ} (inj : InjOn hash K) {rest : List (Node H τ)}
    (c : WorkInv hash K s (nd :: rest)) (hk : (s.dag.contains (hash nd) || s.orphans.contains (hash nd)) = true) :
    WorkInv hash K s rest := by
  have ndK : nd ∈ K := c.pend nd List.mem_cons_self
  -- the node held under `hash nd` is `nd` itself: no collision
  have held : s.dag.get? (hash nd) = some nd ∨ s.orphans.get? (hash nd) = some nd := by
    rcases Bool.or_eq_true _ _ ▸ hk with hk | hk
    · obtain ⟨m, hm⟩ := FMap.contains_iff.mp hk
      have := c.dag_vis _ _ hm
      cases inj m this.2.1 nd ndK this.1
      exact Or.inl hm
    · obtain ⟨m, hm⟩ := FMap.contains_iff.mp hk
      have := c.orph _ _ hm
      cases inj m this.2 nd ndK this.1
      exact Or.inr hm
  exact { c with
    pend := fun n hn => c.pend n (List.mem_cons_of_mem _ hn)
    cover := fun n hn => by
      rcases c.cover n hn with h1 | h1
      · rcases List.mem_cons.mp h1 with e | h1
        · exact Or.inr (e ▸ held)
        · exact Or.inl h1
      · exact Or.inr h1 }

theorem WorkInv.step_orphan {nd : Node H τ} {rest : List (Node H τ)}
    (c : WorkInv hash K s (nd :: rest)) (hk : ¬ (s.dag.contains (hash nd) || s.orphans.contains (hash nd)) = true) :
    WorkInv hash K ⟨s.roots, s.dag, s.orphans.insert (hash nd) nd⟩ rest :=
  have nk := get?_none_of_not_known hk
  { dag_vis := c.dag_vis, dag_closed := c.dag_closed, roots := c.roots
    orph := FMap.forall_get?_insert_of ⟨rfl, c.pend nd List.mem_cons_self⟩ c.orph
    pend := fun n hn => c.pend n (List.mem_cons_of_mem _ hn)
    cover := fun n hn => by
      rcases c.cover n hn with h1 | h1
      · rcases List.mem_cons.mp h1 with e | h1
        · exact Or.inr (Or.inr (by rw [e, FMap.get?_insert, if_pos rfl]))
        · exact Or.inl h1
      · exact Or.inr (h1.imp_right (FMap.get?_insert_of_fresh nk.2 nd)) }

theorem WorkInv.step_insert {nd : Node H τ} {rest : List (Node H τ)}
    (c : WorkInv hash K s (nd :: rest)) (hk : ¬ (s.dag.contains (hash nd) || s.orphans.contains (hash nd)) = true)
    (hs : s.allHashesSeen nd.children = true) :
    WorkInv hash K (s.insertVisible (hash nd) nd).1 ((s.insertVisible (hash nd) nd).2 ++ rest) := by
  have nk := get?_none_of_not_known hk
  have seen := MerkleReg.allHashesSeen_iff.mp hs
  -- whatever `nd` or a dag node lists is in the dag, and `hash nd` is not: nobody lists the new node
  have unlisted : ∀ {m : Node H τ}, (∀ ch, m.children.contains ch = true → s.dag.contains ch = true) →
      m.children.contains (hash nd) = false := fun hm => Bool.eq_false_iff.mpr fun hc => by
    have := hm _ hc
    rewrite [FMap.contains_eq_false_iff.mpr nk.1] at this; cases this
  have ndVis : Visible hash K nd := ⟨c.pend nd List.mem_cons_self, fun ch hc => by
    obtain ⟨m, hm⟩ := FMap.contains_iff.mp (seen ch hc)
    have := c.dag_vis _ _ hm
    exact this.1 ▸ this.2.visH hash⟩
  have oldc : ∀ x, s.dag.contains x = true → (s.dag.insert (hash nd) nd).contains x = true :=
    fun x hx => FMap.contains_insert.mpr (Or.inr hx)
  exact {
    dag_vis := FMap.forall_get?_insert_of ⟨rfl, ndVis⟩ c.dag_vis
    dag_closed := FMap.forall_get?_insert_of (fun ch hc => oldc _ (seen ch hc))
      fun x n hg ch hc => oldc _ (c.dag_closed x n hg ch hc)
    orph := fun x n hg => c.orph x n ((s.insertVisible_orphans_get? (hash nd) nd x n).mp hg).1
    roots := fun x => by
      -- the new node is a root; among the others the children of `nd` leave
      have new : x = hash nd → nd.children.contains x = false ∧
          ∀ h' m, s.dag.get? h' = some m → m.children.contains x = false :=
        fun e => e ▸ ⟨unlisted seen, fun h' m hm => unlisted (c.dag_closed h' m hm)⟩
      rewrite [MerkleReg.insertVisible_roots_contains, MerkleReg.insertVisible_dag, FMap.contains_insert,
        FMap.forall_get?_insert nk.1 nd (fun _ m => m.children.contains x = false), c.roots x,
        or_and_right, and_iff_left_of_imp new]
      exact or_congr_right (and_assoc.trans (and_congr_right fun _ => and_comm))
    pend := fun n hn => by
      rcases List.mem_append.mp hn with h1 | h1
      · obtain ⟨x, hg, _⟩ := (s.mem_insertVisible_snd (hash nd) nd).mp h1
        exact (c.orph x n hg).2
      · exact c.pend n (List.mem_cons_of_mem _ h1)
    cover := fun n hn => by
      rcases c.cover n hn with h1 | h1 | h1
      · exact (List.mem_cons.mp h1).elim
          (fun e => Or.inr (Or.inl (by rw [e, MerkleReg.insertVisible_dag, FMap.get?_insert, if_pos rfl])))
          fun h1 => Or.inl (List.mem_append_right _ h1)
      · exact Or.inr (Or.inl (FMap.get?_insert_of_fresh nk.1 nd h1))
      · -- an orphan stays or is handed back, as it is ready or not
        cases hr : (s.insertVisible (hash nd) nd).1.allHashesSeen n.children with
        | false => exact Or.inr (Or.inr ((s.insertVisible_orphans_get? (hash nd) nd _ n).mpr ⟨h1, hr⟩))
        | true => exact Or.inl (List.mem_append_left _ ((s.mem_insertVisible_snd (hash nd) nd).mpr ⟨_, h1, hr⟩)) }

theorem WorkInv.applyAll (inj : InjOn hash K) {L : List (Node H τ)} (c : WorkInv hash K s L) :
    WorkInv hash K (MerkleReg.applyAll hash s L) [] := by
  fun_induction MerkleReg.applyAll hash s L with
  | case1 s => exact c
  | case2 s nd rest h hk ih => exact ih (c.step_known inj hk)
  | case3 s nd rest h hk hs r ih => exact ih (c.step_insert hk hs)
  | case4 s nd rest h hk hs ih => exact ih (c.step_orphan hk)

/-- "is in the dag" is closed in the sense of `visible_least`: with nothing pending, a node of `K` whose children are all in
the dag is in the dag or an orphan, and no orphan is ready -/
theorem WorkInv.get?_of_visible {n : Node H τ} (c : WorkInv hash K s []) (nro : NoReadyOrphan s) (v : Visible hash K n) :
    s.dag.get? (hash n) = some n := by
  refine visible_least hash (fun n => s.dag.get? (hash n) = some n) (fun n hn hc => ?_) v
  refine ((c.cover n hn).resolve_left List.not_mem_nil).resolve_right fun h1 => ?_
  refine Bool.eq_false_iff.mp (nro _ _ h1) (MerkleReg.allHashesSeen_iff.mpr fun ch hch => ?_)
  obtain ⟨m, hm, rfl⟩ := hc ch hch
  exact FMap.contains_of_get? hm

theorem WorkInv.toRep (c : WorkInv hash K s []) (nro : NoReadyOrphan s) : MRep hash K s := by
  have hd : ∀ h n, s.dag.get? h = some n ↔ (hash n = h ∧ Visible hash K n) :=
    fun h n => ⟨c.dag_vis h n, fun ev => ev.1 ▸ c.get?_of_visible nro ev.2⟩
  refine ⟨hd, fun h n => ⟨fun hg => ?_, ?_⟩, fun h => (c.roots h).trans (roots_iff_head hd h)⟩
  · -- a visible orphan would be ready: its children are visible, so they are in the dag
    refine ⟨(c.orph h n hg).1, (c.orph h n hg).2, fun v => Bool.eq_false_iff.mp (nro h n hg) ?_⟩
    refine MerkleReg.allHashesSeen_iff.mpr fun ch hch => ?_
    obtain ⟨m, vm, rfl⟩ := (visH_iff hash).mp (v.2 ch hch)
    exact FMap.contains_of_get? (c.get?_of_visible nro vm)
  · rintro ⟨rfl, hn, nv⟩
    exact ((c.cover _ hn).resolve_left List.not_mem_nil).resolve_left fun h1 => nv (c.dag_vis _ _ h1).2

theorem MRep.toWorkInv (L : List (Node H τ)) (r : MRep hash K s) : WorkInv hash (L ++ K) s L :=
  have sub : ∀ n, n ∈ K → n ∈ L ++ K := fun _ => List.mem_append_right _
  { dag_vis := fun h n hg => ((r.dag h n).mp hg).imp_right (Visible.mono hash sub)
    dag_closed := fun h n hg ch hc => (r.dag_contains_iff ch).mpr (((r.dag h n).mp hg).2.2 ch hc)
    orph := fun h n hg => ⟨((r.orphans h n).mp hg).1, sub n ((r.orphans h n).mp hg).2.1⟩
    roots := fun h => (r.roots h).trans (roots_iff_head r.dag h).symm
    pend := fun _ => List.mem_append_left _
    cover := fun n hn => (List.mem_append.mp hn).imp_right fun h =>
      (Classical.em (Visible hash K n)).imp (fun v => (r.dag _ n).mpr ⟨rfl, v⟩) fun v => (r.orphans _ n).mpr ⟨rfl, h, v⟩ }

/-! ## the representation relation -/

theorem MRep.init : MRep hash [] (MerkleReg.init : MerkleReg H τ) where
  dag _ _ := ⟨fun hg => (by cases hg), fun h => (by cases h.2.1)⟩
  orphans _ _ := ⟨fun hg => (by cases hg), fun h => (by cases h.2.1)⟩
  roots _ := ⟨fun hc => (by cases hc), fun ⟨_, h⟩ => (by cases h.2.1.1)⟩

/-- whatever the nodes of `L` are: new, duplicates, parents before children, the last missing ancestor of a forest of orphans -/
theorem MRep.applyAll {L : List (Node H τ)} (inj : InjOn hash (L ++ K)) (r : MRep hash K s) :
    MRep hash (L ++ K) (MerkleReg.applyAll hash s L) :=
  ((r.toWorkInv L).applyAll inj).toRep (r.noReadyOrphan.applyAll L)

theorem MRep.apply {nd : Node H τ} (inj : InjOn hash (nd :: K)) {s : MerkleReg H τ} (r : MRep hash K s) :
    MRep hash (nd :: K) (MerkleReg.apply hash s nd) := r.applyAll (L := [nd]) inj

theorem MRep.congr {K' : List (Node H τ)} (e : ∀ n, n ∈ K ↔ n ∈ K') {s : MerkleReg H τ} (r : MRep hash K s) :
    MRep hash K' s := by
  refine ⟨?_, ?_, ?_⟩
  · intro h n; rw [r.dag h n, visible_congr hash e]
  · intro h n; rw [r.orphans h n, visible_congr hash e, e n]
  · intro h; rewrite [r.roots h]; simp only [Head, visible_congr hash e]

theorem MRep.read_get? (inj : InjOn hash K) (r : MRep hash K s) (x : H) (n : Node H τ) :
    s.read.get? x = some n ↔ (hash n = x ∧ Head hash K n) := by
  rewrite [MerkleReg.read_get?_eq_some, r.roots, r.dag]
  constructor
  · rintro ⟨⟨m, e, hm⟩, e', v⟩
    exact ⟨e', inj m hm.1.1 n v.1 (e.trans e'.symm) ▸ hm⟩
  · rintro ⟨e, hd⟩
    exact ⟨⟨n, e, hd⟩, e, hd.1⟩

theorem MRep.hashes_read_contains (inj : InjOn hash K) (r : MRep hash K s) (x : H) :
    (MerkleReg.hashes s.read).contains x = true ↔ ∃ m, hash m = x ∧ Head hash K m := by
  simp only [MerkleReg.hashes_contains, FMap.contains_iff, r.read_get? inj]

theorem MRep.visible_in_dag {n : Node H τ} (inj : InjOn hash K) (r : MRep hash K s)
    (v : Visible hash K n) : s.dag.get? (hash n) = some n ∧ s.orphans.get? (hash n) = none := by
  have hd := (r.dag _ n).mpr ⟨rfl, v⟩
  refine ⟨hd, Option.eq_none_iff_forall_ne_some.mpr fun m ho => ?_⟩
  rewrite [r.dag_none_of_orphan inj ho] at hd; cases hd

theorem MRep.mem_held (r : MRep hash K s) (n : Node H τ) :
    n ∈ s.dag.l.map (·.2) ++ s.orphans.l.map (·.2) ↔ n ∈ K := by
  simp only [List.mem_append, FMap.mem_values_iff r.dag, FMap.mem_values_iff r.orphans]
  exact ⟨fun h => h.elim (·.1) (·.1), fun hn => (Classical.em (Visible hash K n)).imp id fun v => ⟨hn, v⟩⟩

theorem MRep.merge {K' U : List (Node H τ)} (inj : InjOn hash U) (hK : ∀ n, n ∈ K → n ∈ U) (hK' : ∀ n, n ∈ K' → n ∈ U)
    {s s' : MerkleReg H τ} (r : MRep hash K s) (r' : MRep hash K' s') :
    MRep hash (K ++ K') (MerkleReg.merge hash s s') := by
  rewrite [MerkleReg.merge_eq_applyAll]
  have e : ∀ n, n ∈ (s'.dag.l.map (·.2) ++ s'.orphans.l.map (·.2)) ++ K ↔ n ∈ K ++ K' := fun n => by
    rw [List.mem_append, r'.mem_held, List.mem_append, or_comm]
  refine (r.applyAll (inj.mono fun n hn => ?_)).congr e
  exact (List.mem_append.mp ((e n).mp hn)).elim (hK n) (hK' n)

end

theorem MRep.functional {s s' : MerkleReg H τ} (r : MRep hash K s) (r' : MRep hash K s') : s = s' := by
  show (⟨s.roots, s.dag, s.orphans⟩ : MerkleReg H τ) = ⟨s'.roots, s'.dag, s'.orphans⟩
  rw [FMap.ext_some fun k v => (r.dag k v).trans (r'.dag k v).symm,
    FMap.ext_some fun k v => (r.orphans k v).trans (r'.orphans k v).symm,
    FMap.fset_ext fun k => Bool.eq_iff_iff.mpr ((r.roots k).trans (r'.roots k).symm)]

/-- `MerkleReg` as a `RepSys`: no delivery discipline at all (`Ok := True`: any order, duplicates, merges of anything);
the only hypothesis on the history is that `hash` does not collide on the nodes that exist (`WF`). -/
def merkleSys (hash : Node H τ → H) : RepSys (MerkleReg H τ) (Node H τ) where
  init := MerkleReg.init
  apply := MerkleReg.apply hash
  merge := MerkleReg.merge hash
  WF := fun U => InjOn hash U
  Ok := fun _ _ _ => True
  Inv := fun U K => ∀ n, n ∈ K → n ∈ U
  Rep := fun _ K s => MRep hash K s
  inv_nil := fun n hn => by cases hn
  inv_cons := fun _ inv hu _ n hn => by
    rcases List.mem_cons.mp hn with e | hn
    · subst e; exact hu
    · exact inv n hn
  inv_append := fun i1 i2 n hn => by
    rcases List.mem_append.mp hn with h | h
    · exact i1 n h
    · exact i2 n h
  inv_congr := fun e inv n hn => inv n ((e n).mpr hn)
  ok_of_mem := fun _ _ _ => trivial
  rep_init := MRep.init
  rep_apply := fun {U K s op} wf inv r hu _ => by
    refine MRep.apply (InjOn.mono wf ?_) r
    intro n hn
    rcases List.mem_cons.mp hn with e | hn
    · subst e; exact hu
    · exact inv n hn
  rep_merge := fun wf i1 i2 r r' => MRep.merge wf i1 i2 r r'
  rep_congr := fun e r => r.congr e
  rep_functional := fun _ _ r r' => r.functional r'

end MerkleSpec
end Crdt
