import CrdtModel.Proofs.ResetRemoveMap
/-! Helper lemmas for `Props/IterOrder.lean` (whose header states the claim and the method).  Every loop body of the model that touches one key of a
table is an `alter` at that key, and two `alter`s commute when the keys differ or the two updates commute.  From these, the
commutation lemmas for the loop bodies of `Orswot` and `Map`; the file also defines the order-parametrised versions of the loops
(that they compute the model's functions is proved in `Props/IterOrder.lean`). -/
namespace Crdt
namespace IterOrder

section Generic
variable {α β γ : Type}

/-- **a left fold whose steps pairwise commute is invariant under permutation of the list** (the steps only have to
commute for the elements of the list) -/
theorem fold_order_free {α β : Type} {f : β → α → β} {l₁ l₂ : List α} (p : l₁.Perm l₂)
    (comm : ∀ x ∈ l₁, ∀ y ∈ l₁, ∀ b, f (f b x) y = f (f b y) x) (b : β) : l₁.foldl f b = l₂.foldl f b :=
  p.foldl_eq' comm b

theorem fold_order_free_of_comm {f : β → α → β} {l₁ l₂ : List α} (p : l₁.Perm l₂)
    (comm : ∀ b x y, f (f b x) y = f (f b y) x) (b : β) : l₁.foldl f b = l₂.foldl f b :=
  fold_order_free p (fun x _ y _ b => comm b x y) b

/-- a loop along a schedule `sch` whose elements carry, beside the element `π p` of the container, whatever the inner
iterations of step `p` need (their own orders): if every scheduled step does what `f` does on the element, it is the
`f`-loop over the elements -/
theorem foldl_map_congr {σ : Type} {f : β → α → β} {g : β → σ → β} {π : σ → α} {sch : List σ}
    (h : ∀ p ∈ sch, ∀ b, g b p = f b (π p)) (b : β) : sch.foldl g b = (sch.map π).foldl f b := by
  rewrite [List.foldl_map]
  exact List.foldl_rel (r := Eq) rfl fun p hp c _ e => e ▸ h p hp c

theorem foldl_foldl_comm {f : β → α → β} {g : β → γ → β} (h : ∀ b x y, g (f b x) y = f (g b y) x)
    (l₁ : List α) (l₂ : List γ) (b : β) :
    l₂.foldl g (l₁.foldl f b) = l₁.foldl f (l₂.foldl g b) := by
  induction l₂ generalizing b with
  | nil => rfl
  | cons y t ih =>
    simp only [List.foldl_cons]
    rewrite [← List.foldl_hom (g · y) fun b x => (h b x y).symm]
    exact ih _

end Generic

/-! ### `alter`: update one key of a table -/
section Alter
variable {κ μ : Type} [LinOrd κ]

def alter (e : FMap κ μ) (k : κ) (g : Option μ → Option μ) : FMap κ μ :=
  match g (e.get? k) with
  | some v => e.insert k v
  | none => e.erase k

theorem get?_alter (e : FMap κ μ) (k : κ) (g : Option μ → Option μ) (x : κ) :
    (alter e k g).get? x = if x = k then g (e.get? k) else e.get? x := by
  unfold alter
  cases h : g (e.get? k) with
  | none => simp only [FMap.get?_erase]
  | some v => simp only [FMap.get?_insert]

theorem alter_comm (e : FMap κ μ) (k k' : κ) (g g' : Option μ → Option μ)
    (h : k ≠ k' ∨ ∀ o, g' (g o) = g (g' o)) :
    alter (alter e k g) k' g' = alter (alter e k' g') k g := by
  apply FMap.ext
  intro x
  simp only [get?_alter]
  by_cases e1 : k = k'
  · subst e1
    have h := h.resolve_left (· rfl)
    by_cases e2 : x = k <;> simp [e2, h]
  · by_cases e2 : x = k
    · subst e2; simp [e1]
    · simp [e2, Ne.symm e1]

theorem bind_bind_comm {f f' : μ → Option μ} (h : ∀ v, (f v).bind f' = (f' v).bind f) (o : Option μ) :
    (o.bind f).bind f' = (o.bind f').bind f := by
  cases o with
  | none => rfl
  | some v => exact h v

theorem alter_bind_comm (e : FMap κ μ) (k k' : κ) {f f' : μ → Option μ} (h : ∀ v, (f v).bind f' = (f' v).bind f) :
    alter (alter e k (·.bind f)) k' (·.bind f') = alter (alter e k' (·.bind f')) k (·.bind f) :=
  alter_comm e k k' _ _ (Or.inr (bind_bind_comm h))

section Loop
variable {ν : Type} {step : FMap κ μ → κ × ν → FMap κ μ} {G : κ × ν → Option μ → Option μ}

theorem eq_of_mem_of_fst_eq {l : List (κ × ν)} (hs : AL.Sorted l) {p q : κ × ν} (hp : p ∈ l) (hq : q ∈ l)
    (h : p.1 = q.1) : p = q :=
  Prod.ext h (Option.some.inj ((AL.get?_of_mem hs hp).symm.trans (h ▸ AL.get?_of_mem hs hq)))

/-- a loop whose body updates the key of the current pair, over a list with distinct keys (a permutation of a sorted
list), does not depend on the order -/
theorem foldl_alter_perm (hstep : ∀ e p, step e p = alter e p.1 (G p)) {l l' : List (κ × ν)}
    (hs : AL.Sorted l') (p : l.Perm l') (e : FMap κ μ) : l.foldl step e = l'.foldl step e := by
  refine fold_order_free p ?_ e
  intro x hx y hy b
  by_cases h : x.1 = y.1
  · rw [eq_of_mem_of_fst_eq hs (p.mem_iff.mp hx) (p.mem_iff.mp hy) h]
  · simp only [hstep]
    exact alter_comm b x.1 y.1 _ _ (Or.inl h)

theorem get?_foldl_alter (hstep : ∀ e p, step e p = alter e p.1 (G p)) {l : List (κ × ν)} (hs : AL.Sorted l)
    (e0 : FMap κ μ) (k : κ) :
    (l.foldl step e0).get? k =
      match AL.get? l k with
      | some v => G (k, v) (e0.get? k)
      | none => e0.get? k := by
  rewrite [AL.foldl_obs step (fun e k => e.get? k)
    (fun e k v k' ne => by simp [hstep, get?_alter, ne])
    (fun e e' k v h => by simp [hstep, get?_alter, h]) hs e0 k]
  cases AL.get? l k with
  | none => rfl
  | some v => simp [hstep, get?_alter]

end Loop

/-- `iter.filter_map(f).collect::<HashMap>()` over a list of pairs: insert the kept pairs one by one -/
def collectO {ν : Type} (f : κ → ν → Option μ) (l : List (κ × ν)) : FMap κ μ :=
  l.foldl (fun acc p => match f p.1 p.2 with | some w => acc.insert p.1 w | none => acc) ∅

/-- **`filter_map(..).collect()` of a map is order-free** (this is why the model writes it as `FMap.filterMap`) -/
theorem collectO_eq {ν : Type} (f : κ → ν → Option μ) (m : FMap κ ν) {l : List (κ × ν)} (h : l.Perm m.l) :
    collectO f l = m.filterMap f := by
  have hstep : ∀ (acc : FMap κ μ) (p : κ × ν), (match f p.1 p.2 with | some w => acc.insert p.1 w | none => acc) =
      alter acc p.1 ((f p.1 p.2).or ·) := by
    intro acc p
    cases f p.1 p.2 with
    | some w => rfl
    | none =>
      apply FMap.ext
      intro x
      rewrite [get?_alter]
      by_cases e : x = p.1 <;> simp [e]
  apply FMap.ext
  intro k
  rewrite [collectO, foldl_alter_perm hstep m.sorted h, get?_foldl_alter hstep m.sorted, FMap.get?_filterMap]
  show (match m.get? k with | some v => _ | none => _) = _
  cases m.get? k <;> simp

end Alter

/-! ### Orswot: the loop bodies are `alter`s -/
section Orswot
open Orswot
variable {M A : Type} [LinOrd M] [LinOrd A]

/-- unfolded, the two sides are the same `match`, except that `alter` erases a key that is absent already -/
theorem rmMember_eq_alter (c : VClock A) (e : FMap M (VClock A)) (m : M) :
    rmMember c e m = alter e m (·.bind (VClock.rrClock c)) := by
  unfold rmMember alter VClock.rrClock
  cases h : e.get? m with
  | some mc => simp only [Option.bind_some]; split <;> rfl
  | none => exact (FMap.erase_of_get?_none h).symm

theorem rmMember_comm (c1 c2 : VClock A) (e : FMap M (VClock A)) (m1 m2 : M) :
    rmMember c2 (rmMember c1 e m1) m2 = rmMember c1 (rmMember c2 e m2) m1 := by
  simp only [rmMember_eq_alter]
  exact alter_bind_comm e m1 m2 (VClock.rrClock_comm c1 c2)

/-- body of the add loop src/orswot.rs:73-76 -/
def addStep (dot : Dot A) (e : FMap M (VClock A)) (m : M) : FMap M (VClock A) :=
  e.insert m (VClock.apply ((e.get? m).getD ∅) dot)

theorem addStep_eq_alter (dot : Dot A) (e : FMap M (VClock A)) (m : M) :
    addStep dot e m = alter e m (fun o => some (VClock.apply (o.getD ∅) dot)) := rfl

theorem addStep_comm (dot : Dot A) (e : FMap M (VClock A)) (m1 m2 : M) :
    addStep dot (addStep dot e m1) m2 = addStep dot (addStep dot e m2) m1 := by
  simp only [addStep_eq_alter]
  exact alter_comm e m1 m2 _ _ (Or.inr (fun _ => rfl))

/-- the update of one member's clock by the second loop of `merge` -/
def mergeG (s o : Orswot M A) (c : VClock A) : Option (VClock A) → Option (VClock A)
  | some ours =>
    let common := ((VClock.intersection c ours).merge (c.cloneWithout s.clock)).merge (ours.cloneWithout o.clock)
    if common.isEmpty then none else some common
  | none => if s.clock.ge c then none else some (c.resetRemove s.clock)

theorem mergeStep_eq_alter (s o : Orswot M A) (e : FMap M (VClock A)) (m : M) (c : VClock A) :
    mergeStep s o e m c = alter e m (mergeG s o c) := by
  unfold mergeStep alter mergeG
  cases h : e.get? m with
  | some ours => simp only; split <;> rfl
  | none =>
    simp only
    cases s.clock.ge c
    · rfl
    · exact (FMap.erase_of_get?_none h).symm

/-- `mergeStep`s for different members commute -/
theorem mergeStep_comm (s o : Orswot M A) (e : FMap M (VClock A)) {m1 m2 : M} (h : m1 ≠ m2) (c1 c2 : VClock A) :
    mergeStep s o (mergeStep s o e m1 c1) m2 c2 = mergeStep s o (mergeStep s o e m2 c2) m1 c1 := by
  simp only [mergeStep_eq_alter]
  exact alter_comm e m1 m2 _ _ (Or.inl h)

/-! ### Orswot: `apply_rm` with the member set iterated in any order -/

/-- `set.extend(iter)`: insert the elements of a list, in list order -/
def extendL (a : FSet M) (l : List (M × Unit)) : FSet M := l.foldl (fun acc p => acc.insert p.1 ()) a

theorem unionSet_eq_extendL (a b : FSet M) : unionSet a b = extendL a b.l := rfl

theorem insert_unit_comm (b : FSet M) (x y : M) : (b.insert x ()).insert y () = (b.insert y ()).insert x () :=
  alter_comm b x y (fun _ => some ()) (fun _ => some ()) (Or.inr fun _ => rfl)

theorem extendL_perm {l l' : List (M × Unit)} (p : l.Perm l') (a : FSet M) : extendL a l = extendL a l' :=
  fold_order_free_of_comm p (fun b x y => insert_unit_comm b x.1 y.1) a

/-- `HashSet::from_iter(vec)` does not depend on the order of the vector -/
theorem setOfList_perm {l l' : List M} (p : l.Perm l') : setOfList l = setOfList l' :=
  fold_order_free_of_comm p insert_unit_comm ∅

/-- the two iterations over the member set `members: HashSet<M>` inside `apply_rm`:
`loop` = `for member in members.iter()` (src/orswot.rs:275), `ext` = `existing_deferred.extend(members)` (:287);
lists of `M × Unit` because that is the carrier of `FSet M` (= `FMap M Unit`) -/
structure RmOrd (M : Type) where
  loop : List (M × Unit)
  ext : List (M × Unit)

def RmOrd.Valid (r : RmOrd M) (ms : FSet M) : Prop := r.loop.Perm ms.l ∧ r.ext.Perm ms.l

/-- the iteration orders the model uses -/
def RmOrd.sorted (ms : FSet M) : RmOrd M := ⟨ms.l, ms.l⟩
theorem RmOrd.sorted_valid (ms : FSet M) : (RmOrd.sorted ms).Valid ms := ⟨List.Perm.refl _, List.Perm.refl _⟩

/-- `Orswot.applyRm` with the member set iterated in the orders `r` -/
def applyRmO (s : Orswot M A) (members : FSet M) (r : RmOrd M) (c : VClock A) : Orswot M A :=
  let entries := r.loop.foldl (fun e p => rmMember c e p.1) s.entries
  let deferred :=
    match c.partialCmp s.clock with
    | none | some .gt =>
      match s.deferred.get? c with
      | some ex => s.deferred.insert c (extendL ex r.ext)
      | none => s.deferred.insert c members
    | _ => s.deferred
  { s with entries := entries, deferred := deferred }

theorem rmLoop_perm (c : VClock A) {l l' : List (M × Unit)} (p : l.Perm l') (e : FMap M (VClock A)) :
    l.foldl (fun e p => rmMember c e p.1) e = l'.foldl (fun e p => rmMember c e p.1) e :=
  fold_order_free_of_comm p (fun b x y => rmMember_comm c c b x.1 y.1) e

theorem deferInsert_comm (d : FMap (VClock A) (FSet M)) (c1 c2 : VClock A) (ms1 ms2 : FSet M) :
    deferInsert (deferInsert d c1 ms1) c2 ms2 = deferInsert (deferInsert d c2 ms2) c1 ms1 := by
  apply deferred_ext
  · intro k
    simp only [dKey_deferInsert]
    exact or_left_comm
  · intro k m
    simp only [dMem_deferInsert]
    exact or_right_comm

/-- what every loop does to the deferred table: file the remove, or not, on a test that the loop leaves untouched -/
def deferIf (b : Bool) (d : FMap (VClock A) (FSet M)) (c : VClock A) (ms : FSet M) : FMap (VClock A) (FSet M) :=
  if b then deferInsert d c ms else d

theorem deferIf_comm (b1 b2 : Bool) (d : FMap (VClock A) (FSet M)) (c1 c2 : VClock A) (ms1 ms2 : FSet M) :
    deferIf b2 (deferIf b1 d c1 ms1) c2 ms2 = deferIf b1 (deferIf b2 d c2 ms2) c1 ms1 := by
  cases b1 <;> cases b2 <;> simp only [deferIf, if_true, if_false, Bool.false_eq_true]
  exact deferInsert_comm ..

theorem entries_applyRm (s : Orswot M A) (ms : FSet M) (c : VClock A) :
    (applyRm s ms c).entries = ms.l.foldl (fun e p => rmMember c e p.1) s.entries := rfl

/-- an iteration schedule of a deferred table `HashMap<VClock, HashSet<M>>`: the pending removes in the order in which
the map yields them, each with the orders in which its member set is iterated -/
abbrev DSched (M A : Type) [LinOrd M] [LinOrd A] := List ((VClock A × FSet M) × RmOrd M)

def DSched.Valid (sch : DSched M A) (d : FMap (VClock A) (FSet M)) : Prop :=
  (sch.map (·.1)).Perm d.l ∧ ∀ p ∈ sch, p.2.Valid p.1.2

/-- the schedule the model uses (key order everywhere) -/
def DSched.sorted (d : FMap (VClock A) (FSet M)) : DSched M A := d.l.map (fun p => (p, RmOrd.sorted p.2))
theorem DSched.sorted_valid (d : FMap (VClock A) (FSet M)) : (DSched.sorted d).Valid d :=
  ⟨by simp [DSched.sorted, Function.comp_def], fun p hp => by
    obtain ⟨q, _, rfl⟩ := List.mem_map.mp hp
    exact RmOrd.sorted_valid _⟩

/-- `for (clock, members) in table { self.apply_rm(members, clock) }` along a schedule -/
def foldRmO (sch : DSched M A) (s : Orswot M A) : Orswot M A :=
  sch.foldl (fun acc p => applyRmO acc p.1.2 p.2 p.1.1) s

/-- `Orswot.applyDeferred` along a schedule of `s.deferred` -/
def applyDeferredO (s : Orswot M A) (sch : DSched M A) : Orswot M A := foldRmO sch { s with deferred := ∅ }

/-! ### Orswot: `apply`, `merge`, `reset_remove` -/

/-- the iteration orders used by one call of `apply`.  (`members` is generous: `Op::Add.members` is a `Vec`, src/orswot.rs:29-33,
so its order is no hash order.) -/
structure ApplyOrd (M A : Type) [LinOrd M] [LinOrd A] where
  /-- `Add`: the order of `for member in members` (src/orswot.rs:73) -/
  members : List M
  /-- `Rm`: the orders in which `apply_rm` iterates the collected `HashSet` -/
  rm : RmOrd M
  /-- `Add`: the schedule of `apply_deferred` -/
  deferred : DSched M A

def ApplyOrd.Valid (ord : ApplyOrd M A) (s : Orswot M A) : OrswotOp M A → Prop
  | .add _ ms => ord.members.Perm ms ∧ ord.deferred.Valid s.deferred
  | .rm _ ms => ord.rm.Valid (setOfList ms)

/-- `Orswot.apply` with the iteration orders `ord` -/
def applyO (s : Orswot M A) (ord : ApplyOrd M A) : OrswotOp M A → Orswot M A
  | .add dot _ =>
    if s.clock.get dot.actor ≥ dot.counter then s
    else
      let entries := ord.members.foldl (addStep dot) s.entries
      applyDeferredO { s with entries := entries, clock := s.clock.apply dot } ord.deferred
  | .rm c members => applyRmO s (setOfList members) ord.rm c

theorem addLoop_perm (dot : Dot A) {l l' : List M} (p : l.Perm l') (e : FMap M (VClock A)) :
    l.foldl (addStep dot) e = l'.foldl (addStep dot) e :=
  fold_order_free_of_comm p (fun b x y => addStep_comm dot b x y) e

/-- the iteration orders used by one call of `merge` -/
structure MergeOrd (M A : Type) [LinOrd M] [LinOrd A] where
  /-- first loop `self.entries.into_iter().filter_map(..).collect()` (src/orswot.rs:134-156) -/
  keep : List (M × VClock A)
  /-- second loop `for (entry, clock) in other.entries` (:158-188) -/
  entries : List (M × VClock A)
  /-- `for (rm_clock, members) in other.deferred` (:191-193) -/
  deferred : DSched M A
  /-- the final `apply_deferred` (:197) -/
  final : DSched M A

/-- the state of `merge` before the final `apply_deferred` (the model's `s2` with the merged clock) -/
def mergeMid (s o : Orswot M A) : Orswot M A :=
  let e2 := o.entries.l.foldl (fun e p => mergeStep s o e p.1 p.2) (mergeKeep s o)
  let s2 := foldRm o.deferred.l { s with entries := e2 }
  { s2 with clock := s2.clock.merge o.clock }

theorem merge_eq_mid (s o : Orswot M A) : s.merge o = applyDeferred (mergeMid s o) := rfl

def MergeOrd.Valid (ord : MergeOrd M A) (s o : Orswot M A) : Prop :=
  ord.keep.Perm s.entries.l ∧ ord.entries.Perm o.entries.l ∧ ord.deferred.Valid o.deferred ∧
    ord.final.Valid (mergeMid s o).deferred

/-- the `filter_map` closure of the first loop of `merge` -/
def keepF (o : Orswot M A) (m : M) (c : VClock A) : Option (VClock A) :=
  if o.entries.contains m then some c
  else if o.clock.ge c then none
  else some (c.resetRemove o.clock)

theorem mergeKeep_eq (s o : Orswot M A) : mergeKeep s o = s.entries.filterMap (keepF o) := rfl

def mergeMidO (s o : Orswot M A) (ord : MergeOrd M A) : Orswot M A :=
  let e1 := collectO (keepF o) ord.keep
  let e2 := ord.entries.foldl (fun e p => mergeStep s o e p.1 p.2) e1
  let s2 := foldRmO ord.deferred { s with entries := e2 }
  { s2 with clock := s2.clock.merge o.clock }

/-- `Orswot.merge` with the iteration orders `ord` -/
def mergeO (s o : Orswot M A) (ord : MergeOrd M A) : Orswot M A :=
  applyDeferredO (mergeMidO s o ord) ord.final

theorem mergeLoop_perm (s o : Orswot M A) {l : List (M × VClock A)} (p : l.Perm o.entries.l) (e : FMap M (VClock A)) :
    l.foldl (fun e p => mergeStep s o e p.1 p.2) e = o.entries.l.foldl (fun e p => mergeStep s o e p.1 p.2) e :=
  foldl_alter_perm (fun e p => mergeStep_eq_alter s o e p.1 p.2) o.entries.sorted p e

/-- the iteration orders used by one call of `reset_remove` -/
structure RROrd (M A : Type) [LinOrd M] [LinOrd A] where
  /-- `self.entries.into_iter().filter_map(..).collect()` (src/orswot.rs:205-215) -/
  entries : List (M × VClock A)
  /-- `for (vclock, members) in self.deferred` with, per pending remove, the order of `.extend(members)` (:220-225) -/
  deferred : List ((VClock A × FSet M) × List (M × Unit))

/-- `deferred.entry(k).or_default().extend(members)` with `members` iterated in the order `lx` -/
def deferExtendO (d : FMap (VClock A) (FSet M)) (k : VClock A) (lx : List (M × Unit)) : FMap (VClock A) (FSet M) :=
  d.insert k (extendL ((d.get? k).getD ∅) lx)

theorem extendL_empty (ms : FSet M) : extendL ∅ ms.l = ms := by
  rewrite [← unionSet_eq_extendL]
  apply FMap.fset_ext
  intro m
  rewrite [contains_unionSet]
  simp [FMap.contains]

theorem deferExtendO_eq (d : FMap (VClock A) (FSet M)) (k : VClock A) {ms : FSet M} {lx : List (M × Unit)}
    (h : lx.Perm ms.l) : deferExtendO d k lx = deferInsert d k ms := by
  unfold deferExtendO deferInsert
  rewrite [extendL_perm h]
  cases d.get? k with
  | none => simp only [Option.getD_none, extendL_empty]
  | some ex => rfl

/-- `Orswot.resetRemove` with the iteration orders `ord` -/
def resetRemoveO (s : Orswot M A) (ord : RROrd M A) (c : VClock A) : Orswot M A :=
  { clock := s.clock.resetRemove c
    entries := collectO (fun _ vc => VClock.rrClock c vc) ord.entries
    deferred := ord.deferred.foldl (fun acc p =>
      let k := p.1.1.resetRemove c
      if k.isEmpty then acc else deferExtendO acc k p.2) ∅ }

theorem rrFold_perm (c : VClock A) {l l' : List (VClock A × FSet M)} (p : l.Perm l') (acc : FMap (VClock A) (FSet M)) :
    rrFold c l acc = rrFold c l' acc := by
  refine fold_order_free_of_comm p ?_ acc
  intro b x y
  by_cases h1 : (x.1.resetRemove c).isEmpty = true <;> by_cases h2 : (y.1.resetRemove c).isEmpty = true <;>
    simp only [h1, h2, if_true, if_false, Bool.false_eq_true]
  exact deferInsert_comm _ _ _ _ _

end Orswot

/-! ### Map: only `deferred` is a `HashMap` (`entries` is a `BTreeMap`, key sets are `BTreeSet`s: ordered); so `Map::validate_merge`,
whose three loops run over `BTreeMap`s (src/map.rs:213-215), needs no order theorem, unlike `Orswot::validate_merge` -/
section MapOps
open CMap
variable {K V VOp A : Type} [LinOrd K] [LinOrd A]

/-- **hypothesis on the value type**: two `reset_remove`s of a value commute.  Needed because two pending removes naming
the same key apply the value's `reset_remove` with their two contexts, in iteration order (src/map.rs:411-424).
Not the record `CMap.RRLawful` (Proofs/ResetRemoveMap.lean): that one yields commutation too (`C18.map_commute`), but only on the
value states satisfying its invariant; here ALL states are meant. -/
def RRComm (ops : ValOps V VOp A) : Prop :=
  ∀ v c1 c2, ops.resetRemove (ops.resetRemove v c1) c2 = ops.resetRemove (ops.resetRemove v c2) c1

theorem rrEntry_comm {ops : ValOps V VOp A} (H : RRComm ops) (c1 c2 : VClock A) (en : MapEntry V A) :
    (rrEntry ops c1 en).bind (rrEntry ops c2) = (rrEntry ops c2 en).bind (rrEntry ops c1) := by
  have key : ∀ c c' : VClock A, (rrEntry ops c en).bind (rrEntry ops c') =
      ((VClock.rrClock c en.clock).bind (VClock.rrClock c')).map
        (fun k => ⟨k, ops.resetRemove (ops.resetRemove en.val c) c'⟩) := by
    intro c c'
    rewrite [rrEntry_eq]
    cases VClock.rrClock c en.clock with
    | none => rfl
    | some k => exact rrEntry_eq ops c' _
  rw [key, key, VClock.rrClock_comm, H]

theorem rmKey_eq_alter (ops : ValOps V VOp A) (c : VClock A) (e : FMap K (MapEntry V A)) (k : K) :
    rmKey ops c e k = alter e k (·.bind (rrEntry ops c)) := by
  refine FMap.ext fun x => ?_
  rewrite [get?_alter]
  split
  · next h => rewrite [h, get?_rmKey_self]; rfl
  · next h => exact get?_rmKey_other ops c e k x h

theorem rmKey_comm {ops : ValOps V VOp A} (H : RRComm ops) (c1 c2 : VClock A) (e : FMap K (MapEntry V A)) (k1 k2 : K) :
    rmKey ops c2 (rmKey ops c1 e k1) k2 = rmKey ops c1 (rmKey ops c2 e k2) k1 := by
  simp only [rmKey_eq_alter]
  exact alter_bind_comm e k1 k2 (rrEntry_comm H c1 c2)

theorem entries_applyKeysetRm (ops : ValOps V VOp A) (s : CMap K V A) (ks : FSet K) (c : VClock A) :
    (applyKeysetRm ops s ks c).entries = ks.l.foldl (fun e p => rmKey ops c e p.1) s.entries := rfl

theorem clock_applyKeysetRm (ops : ValOps V VOp A) (s : CMap K V A) (ks : FSet K) (c : VClock A) :
    (applyKeysetRm ops s ks c).clock = s.clock := rfl

/-- `for (clock, keys) in table { self.apply_keyset_rm(keys, clock) }` over a list of pending key removes -/
def foldKRm (ops : ValOps V VOp A) (l : List (VClock A × FSet K)) (s : CMap K V A) : CMap K V A :=
  l.foldl (fun acc p => applyKeysetRm ops acc p.2 p.1) s

/-- `CMap.applyDeferred` with the `deferred` table enumerated as `ld` -/
def mapApplyDeferredO (ops : ValOps V VOp A) (s : CMap K V A) (ld : List (VClock A × FSet K)) : CMap K V A :=
  foldKRm ops ld { s with deferred := ∅ }

/-- `CMap.apply` with the `deferred` table enumerated as `ld` in `apply_deferred` -/
def mapApplyO (ops : ValOps V VOp A) (s : CMap K V A) (ld : List (VClock A × FSet K)) : MapOp K VOp A → CMap K V A
  | .rm c keyset => applyKeysetRm ops s (Orswot.setOfList keyset) c
  | .up dot key op =>
    if s.clock.get dot.actor ≥ dot.counter then s
    else
      let en : MapEntry V A := (s.entries.get? key).getD ⟨∅, ops.default⟩
      let en' : MapEntry V A := ⟨en.clock.apply dot, ops.apply en.val op⟩
      mapApplyDeferredO ops { s with entries := s.entries.insert key en', clock := s.clock.apply dot } ld

/-- the state of `merge` before the final `apply_deferred` -/
def mapMergeMid (ops : ValOps V VOp A) (s o : CMap K V A) : CMap K V A :=
  let e2 := o.entries.l.foldl (fun e p => mergeStep ops s o e p.1 p.2) (mergeKeep ops s o)
  let s2 := foldKRm ops o.deferred.l { s with entries := e2 }
  { s2 with clock := s2.clock.merge o.clock }

theorem map_merge_eq_mid (ops : ValOps V VOp A) (s o : CMap K V A) :
    CMap.merge ops s o = applyDeferred ops (mapMergeMid ops s o) := rfl

/-- `CMap.merge` with `other.deferred` enumerated as `ld` and the final `apply_deferred` enumerating as `lf` -/
def mapMergeO (ops : ValOps V VOp A) (s o : CMap K V A) (ld lf : List (VClock A × FSet K)) : CMap K V A :=
  let e2 := o.entries.l.foldl (fun e p => mergeStep ops s o e p.1 p.2) (mergeKeep ops s o)
  let s2 := foldKRm ops ld { s with entries := e2 }
  mapApplyDeferredO ops { s2 with clock := s2.clock.merge o.clock } lf

/-- `CMap.resetRemove` with the `deferred` table enumerated as `ld` -/
def mapResetRemoveO (ops : ValOps V VOp A) (s : CMap K V A) (ld : List (VClock A × FSet K)) (c : VClock A) : CMap K V A :=
  { entries := s.entries.filterMap (fun _ en =>
      let ec := en.clock.resetRemove c
      if ec.isEmpty then none else some ⟨ec, ops.resetRemove en.val c⟩)
    deferred := ld.foldl (fun acc p =>
      let k := p.1.resetRemove c
      if k.isEmpty then acc else Orswot.deferInsert acc k p.2) ∅
    clock := s.clock.resetRemove c }

/-! ### `RRComm` is inherited by `Map` values (for `MVReg` and `Orswot` it is `MVReg.resetRemove_comm`, `Orswot.resetRemove_comm`) -/

theorem map_resetRemove_comm {ops : ValOps V VOp A} (H : RRComm ops) (s : CMap K V A) (c1 c2 : VClock A) :
    CMap.resetRemove ops (CMap.resetRemove ops s c1) c2 = CMap.resetRemove ops (CMap.resetRemove ops s c2) c1 := by
  apply CMap.ext
  · exact VClock.resetRemove_comm s.clock c1 c2
  · apply FMap.ext
    intro k
    simp only [CMap.get?_resetRemove]
    exact bind_bind_comm (rrEntry_comm H c1 c2) _
  · have h := congrArg Orswot.deferred (Orswot.resetRemove_comm s.keysView c1 c2)
    simp only [← CMap.resetRemove_sim ops] at h
    exact h

end MapOps

/-! ### `Orswot::validate_merge`: the VERDICT is order-free (the payload of the error is not) -/
section Validate
variable {M A : Type} [LinOrd M] [LinOrd A]

/-- the search of src/orswot.rs:114-130 over given enumerations of the two `entries` tables -/
def vmHit (ls lo : List (M × VClock A)) : Option (DoubleSpentDot M A) :=
  ls.findSome? (fun (m, c) =>
    lo.findSome? (fun (m', c') =>
      c.dots.l.findSome? (fun (a, n) =>
        if m' ≠ m ∧ c'.get a = n then some (DoubleSpentDot.mk ⟨a, n⟩ m m') else none)))

/-- `Orswot.validateMerge` with the two `HashMap`s enumerated as `ls`, `lo` -/
def validateMergeO (ls lo : List (M × VClock A)) : Except (DoubleSpentDot M A) Unit :=
  match vmHit ls lo with
  | some e => .error e
  | none => .ok ()

theorem validateMerge_eq (s o : Orswot M A) : s.validateMerge o = validateMergeO s.entries.l o.entries.l := rfl

/-- whether a search finds nothing does not depend on the order of the list -/
theorem findSome?_none_perm {α β : Type} {l l' : List α} (h : l.Perm l') (f : α → Option β) :
    l.findSome? f = none ↔ l'.findSome? f = none := by
  rewrite [List.findSome?_eq_none_iff, List.findSome?_eq_none_iff]
  exact forall_congr' fun _ => imp_congr_left h.mem_iff

theorem vmHit_none_perm {ls ls' lo lo' : List (M × VClock A)} (hs : ls.Perm ls') (ho : lo.Perm lo') :
    vmHit ls lo = none ↔ vmHit ls' lo' = none := by
  unfold vmHit
  -- the outer list; then, under each of its members, the inner one
  refine (findSome?_none_perm hs _).trans ?_
  rewrite [List.findSome?_eq_none_iff, List.findSome?_eq_none_iff]
  exact forall_congr' fun _ => imp_congr_right fun _ => findSome?_none_perm ho _

theorem validateMergeO_ok_iff (ls lo : List (M × VClock A)) : validateMergeO ls lo = .ok () ↔ vmHit ls lo = none := by
  unfold validateMergeO
  cases vmHit ls lo <;> simp

end Validate

end IterOrder
end Crdt
