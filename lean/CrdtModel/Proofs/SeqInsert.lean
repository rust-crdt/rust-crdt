import CrdtModel.Base.FMap
/-! Position lemmas for strictly sorted association lists: inserting a key that fits between two neighbours is
`List.insertIdx`, erasing the key at an index is `List.eraseIdx`, positions compare like the keys found there, and the
crate's neighbour look-ups return the neighbours (`SortedKeys`). -/
namespace Crdt
open LinOrd

/-- the element before position `i` (Rust: `i.checked_sub(1).and_then(|j| l.get(j))`).  With `l[i]?` it is the pair of
neighbours that `List::insert_index` and `GList::insert`/`insert_after`/`insert_before` hand to `between` (`ListCrdt.insertIndex_eq`, `GList.insert_eq`). -/
def prevAt {α : Type} (l : List α) : Nat → Option α
  | 0 => none
  | j + 1 => l[j]?

theorem mem_of_prevAt {α : Type} {l : List α} {i : Nat} {a : α} (h : prevAt l i = some a) : a ∈ l := by
  cases i with
  | zero => cases h
  | succ j => exact List.mem_of_getElem? h

namespace AL
variable {κ : Type} [LinOrd κ] {ν : Type}

theorem insert_at {l : List (κ × ν)} (hs : Sorted l) (i : Nat) {k : κ} (v : ν) (hi : i ≤ l.length)
    (hlo : ∀ p, prevAt (l.map (·.1)) i = some p → p < k) (hhi : ∀ p, (l.map (·.1))[i]? = some p → k < p) :
    insert k v l = l.insertIdx i (k, v) ∧ get? l k = none := by
  induction l generalizing i with
  | nil => cases Nat.le_zero.mp hi; exact ⟨rfl, rfl⟩
  | cons a t ih =>
    obtain ⟨k', v'⟩ := a
    have hs' := List.pairwise_cons.mp hs
    cases i with
    | zero =>
      have lt : k < k' := hhi k' rfl
      refine ⟨if_pos lt, get?_eq_none_of_lb (b := k) (fun p hp => ?_) (Or.inl rfl)⟩
      rcases List.mem_cons.mp hp with e | hp
      · exact e ▸ lt
      · exact lt_trans lt (hs'.1 p hp)
    | succ j =>
      have gt : k' < k := by
        cases j with
        | zero => exact hlo k' rfl
        | succ j' =>
          have hlt : j' < t.length := Nat.le_of_succ_le_succ hi
          refine lt_trans (hs'.1 _ (List.getElem_mem hlt)) (hlo t[j'].1 ?_)
          show (t.map (·.1))[j']? = _
          rewrite [List.getElem?_map, List.getElem?_eq_getElem hlt]; rfl
      have ih := ih hs'.2 j (Nat.le_of_succ_le_succ hi)
        (fun p hp => hlo p (by cases j with | zero => cases hp | succ _ => exact hp)) hhi
      constructor
      · show (if k < k' then _ else if k = k' then _ else (k', v') :: insert k v t) = _
        rewrite [if_neg (lt_asymm gt), if_neg (ne_of_lt gt).symm, ih.1]; rfl
      · show (if k = k' then _ else get? t k) = none
        rw [if_neg (ne_of_lt gt).symm, ih.2]

theorem erase_at {l : List (κ × ν)} (hs : Sorted l) (i : Nat) (h : i < l.length) : erase l[i].1 l = l.eraseIdx i := by
  induction l generalizing i with
  | nil => cases h
  | cons a t ih =>
    cases i with
    | zero => exact if_pos rfl
    | succ j =>
      have hs' := List.pairwise_cons.mp hs
      have hj : j < t.length := Nat.lt_of_succ_lt_succ h
      have ne : t[j].1 ≠ a.1 := (ne_of_lt (hs'.1 _ (List.getElem_mem hj))).symm
      show (if t[j].1 = a.1 then _ else a :: erase t[j].1 t) = _
      rewrite [if_neg ne, ih hs'.2 j hj]; rfl

end AL

theorem sorted_idx_lt_iff {κ : Type} [LinOrd κ] {ks : List κ} (hs : ks.Pairwise (· < ·)) {i j : Nat} {a b : κ}
    (hi : ks[i]? = some a) (hj : ks[j]? = some b) : i < j ↔ a < b := by
  have mono : ∀ {i j : Nat} {a b : κ}, ks[i]? = some a → ks[j]? = some b → i < j → a < b := fun hi hj h => by
    obtain ⟨h1, rfl⟩ := List.getElem?_eq_some_iff.mp hi
    obtain ⟨h2, rfl⟩ := List.getElem?_eq_some_iff.mp hj
    exact List.pairwise_iff_getElem.mp hs _ _ h1 h2 h
  refine ⟨mono hi hj, fun h => Nat.lt_of_not_le fun hle => ?_⟩
  rcases Nat.lt_or_eq_of_le hle with l | e
  · exact lt_asymm h (mono hj hi l)
  · cases e; cases hi.symm.trans hj; exact lt_irrefl _ h

namespace SortedKeys
variable {κ : Type} [LinOrd κ]

theorem prevAt_lt {ks : List κ} (hs : ks.Pairwise (· < ·)) {i : Nat} {p q : κ} (hp : prevAt ks i = some p)
    (hq : ks[i]? = some q) : p < q := by
  cases i with
  | zero => cases hp
  | succ k => exact (sorted_idx_lt_iff hs hp hq).mp (Nat.lt_succ_self k)

/-- `.find(|x| x > p)` (`GList.succ`): on a strictly sorted list, the right neighbour of `p` -/
theorem find?_gt_eq_next {ks : List κ} (hs : ks.Pairwise (· < ·)) (k : Nat) (p : κ) (h : ks[k]? = some p) :
    ks.find? (fun i => decide (p < i)) = ks[k + 1]? := by
  induction ks generalizing k with
  | nil => cases h
  | cons a t ih =>
    have hs' := List.pairwise_cons.mp hs
    cases k with
    | zero =>
      cases (Option.some.inj h : a = p)
      rewrite [List.find?_cons_of_neg (by rewrite [decide_eq_true_iff]; exact lt_irrefl _)]
      cases t with
      | nil => rfl
      | cons b t' => exact List.find?_cons_of_pos (decide_eq_true (hs'.1 b List.mem_cons_self))
    | succ k =>
      rewrite [List.find?_cons_of_neg (by rewrite [decide_eq_true_iff]; exact lt_asymm (hs'.1 p (List.mem_of_getElem? h)))]
      exact ih hs'.2 k h

/-- `.rev().find(|x| x < p)` (`GList.pred`): on a strictly sorted list, the left neighbour of `p` -/
theorem getLast?_filter_lt_eq_prevAt {ks : List κ} (hs : ks.Pairwise (· < ·)) (k : Nat) (p : κ) (h : ks[k]? = some p) :
    (ks.filter (fun i => decide (i < p))).getLast? = prevAt ks k := by
  induction ks generalizing k with
  | nil => cases h
  | cons a t ih =>
    have hs' := List.pairwise_cons.mp hs
    cases k with
    | zero =>
      cases (Option.some.inj h : a = p)
      -- nothing in the list is below its head: the filter is empty
      have none_below : ∀ x ∈ p :: t, ¬ decide (x < p) = true := fun x hx => by
        rewrite [decide_eq_true_iff]
        rcases List.mem_cons.mp hx with e | hx
        · exact e ▸ lt_irrefl _
        · exact lt_asymm (hs'.1 x hx)
      rewrite [List.filter_eq_nil_iff.mpr none_below]; rfl
    | succ k =>
      have ht : t[k]? = some p := h
      rewrite [List.filter_cons_of_pos (p := fun i => decide (i < p)) (decide_eq_true (hs'.1 p (List.mem_of_getElem? ht))),
        List.getLast?_cons, ih hs'.2 k ht]
      cases k with
      | zero => rfl
      | succ j =>
        show some (t[j]?.getD a) = t[j]?
        rewrite [List.getElem?_eq_getElem (Nat.lt_of_succ_lt (List.getElem?_eq_some_iff.mp ht).1)]; rfl

end SortedKeys

theorem map_insertIdx {α β : Type} (f : α → β) (l : List α) (i : Nat) (x : α) :
    (l.insertIdx i x).map f = (l.map f).insertIdx i (f x) := by
  induction i generalizing l with
  | zero => rfl
  | succ i ih =>
    cases l with
    | nil => rfl
    | cons a t => exact congrArg (f a :: ·) (ih t)

theorem map_eraseIdx {α β : Type} (f : α → β) (l : List α) (i : Nat) :
    (l.eraseIdx i).map f = (l.map f).eraseIdx i := by
  rw [List.eraseIdx_eq_take_drop_succ, List.eraseIdx_eq_take_drop_succ, List.map_append, List.map_take, List.map_drop]

end Crdt
